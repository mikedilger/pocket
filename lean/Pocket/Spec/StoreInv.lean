import Pocket.Model.Store
import Pocket.Model.EventMap
/- What the store statements assume of a state and of a history (C04, C09–C18): `Inv`, the consistency of the store model
(the index points into the log; offsets increase, are aligned and lie below the end marker; ids are unique); `EMInv`, that
of the event-map file model (C04, C13, C15); `Uniq`, `AddrUniq`: an offset or an id names one retrievable entry, a
replaceable address has at most one holder (C09); `NoRebuild`, `opTimeOk`: the two restrictions on histories some statements
carry; `MarkersLe`: the order in which the deletion markers grow (C11). -/
namespace Pocket

structure Inv (s : Store) : Prop where
  liveInLog : ∀ x ∈ s.db.live, x ∈ s.log
  logSorted : s.log.Pairwise (fun a b => a.off < b.off)
  logBound : ∀ x ∈ s.log, 8 ≤ x.off ∧ x.off % 8 = 0 ∧ x.off + eventLen x.e ≤ s.end
  liveIds : (s.db.live.map (·.e.id)).Nodup
  endGe : 8 ≤ s.end

/-- the map as a live `EventStore` holds it between calls -/
structure EMInv (m : EMap) : Prop where
  hdr : 8 ≤ m.marker
  inMap : m.marker ≤ m.mapLen
  mapFile : m.mapLen = m.fileLen
  memFile : m.memLen = m.fileLen
  al : m.fileLen % 8 = 0

/-- a history without a rebuild, the one operation that starts a new map file (so the log only grows: `run_log_mono`) -/
def NoRebuild : List Op → Prop
  | [] => True
  | .rebuild :: _ => False
  | _ :: ops => NoRebuild ops

/-- offsets and ids each identify an entry of the committed index -/
structure Uniq (c : List SEv) : Prop where
  off : ∀ x ∈ c, ∀ y ∈ c, x.off = y.off → x = y
  id : ∀ x ∈ c, ∀ y ∈ c, x.e.id = y.e.id → x = y

/-- at most one retrievable event per replaceable address -/
def AddrUniq (live : List SEv) : Prop :=
  ∀ x ∈ live, ∀ y ∈ live, addrOf x.e = addrOf y.e → addrOf x.e ≠ none → x = y

def opTimeOk : Op → Prop
  | .store e => e.createdAt ≤ U64MAX
  | _ => True

/-- the markers only grow: no id is lost, no deletion time moves back -/
structure MarkersLe (di di' : List Bytes) (da da' : List (AddrKey × Nat)) : Prop where
  ids : ∀ id ∈ di, id ∈ di'
  times : ∀ key t, delAddrGet da key = some t → ∃ t', t ≤ t' ∧ delAddrGet da' key = some t'

end Pocket
