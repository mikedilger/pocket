import Pocket.Model.Hll
/- Insertions into a HyperLogLog sketch, abstractly (C20); `hllAdd` of `Model/Hll.lean` is shown to be `step` on the pair it derives
from an element (`C20.add_ok`).  This `step` is a second `Pocket.step` beside the store model's, so the file cannot be loaded
together with the store modules (see `Pocket.lean`). -/
namespace Pocket

/-- one insertion, abstractly: `(register index, rho)` -/
def step (r : Regs) (x : Nat × Nat) : Regs := setReg r x.1 x.2

def sketchFrom (r : Regs) (l : List (Nat × Nat)) : Regs := l.foldl step r

end Pocket
