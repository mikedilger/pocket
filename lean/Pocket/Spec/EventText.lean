import Pocket.Spec.JsonText
/- The texts of an event object that `Event::from_json` is proved to read (C01, C02).  A member is one of the seven NIP-01
members (`EMem`, key `keyOf`, value `valOf`: hex and decimal as `as_json` writes them, the tags array `tj` and the content `ec`
in the spelling the statement allows) with whitespace at its four places (`MemSpec`), or an unknown member `"key" : value`
(`ESpec`; `ESpec.WsOk`: which whitespace, keys and values).  `evTextU e tj ec ms R` is the text after the opening `{`: the
members `ms` in order, `}` after the last, then `R`. -/
namespace Pocket

inductive EMem where
  | id | pubkey | kind | createdAt | tags | content | sig
deriving DecidableEq, Repr

/-- what follows a value: whitespace, then `,` or `}` -/
def Sep (w3 : Bytes) (last : Bool) (X : Bytes) : Bytes := w3 ++ (if last then 125 else 44) :: X

def keyOf : EMem → Bytes
  | .id => [105, 100]
  | .pubkey => [112, 117, 98, 107, 101, 121]
  | .kind => [107, 105, 110, 100]
  | .createdAt => [99, 114, 101, 97, 116, 101, 100, 95, 97, 116]
  | .tags => [116, 97, 103, 115]
  | .content => [99, 111, 110, 116, 101, 110, 116]
  | .sig => [115, 105, 103]

def valOf (e : EventRec) (tj ec : Bytes) : EMem → Bytes
  | .id => 34 :: (hexOf e.id ++ [34])
  | .pubkey => 34 :: (hexOf e.pubkey ++ [34])
  | .kind => decOf e.kind
  | .createdAt => decOf e.createdAt
  | .tags => tj
  | .content => 34 :: (ec ++ [34])
  | .sig => 34 :: (hexOf e.sig ++ [34])

/-- `"key" ws : ws value` -/
def memText (e : EventRec) (tj ec : Bytes) (m : EMem) (w1 w2 : Bytes) : Bytes :=
  34 :: (keyOf m ++ 34 :: (w1 ++ 58 :: (w2 ++ valOf e tj ec m)))

/-- a member with its whitespace: before the key, before the colon, after the colon, after the value -/
structure MemSpec where
  w0 : Bytes
  w1 : Bytes
  w2 : Bytes
  w3 : Bytes
  m : EMem

def MemSpec.WsOk (x : MemSpec) : Prop := AllWs x.w0 ∧ AllWs x.w1 ∧ AllWs x.w2 ∧ AllWs x.w3

def knownEKeys : List Bytes :=
  [[105, 100], [115, 105, 103], [107, 105, 110, 100], [116, 97, 103, 115], [112, 117, 98, 107, 101, 121],
   [99, 111, 110, 116, 101, 110, 116], [99, 114, 101, 97, 116, 101, 100, 95, 97, 116]]

inductive ESpec where
  | known (x : MemSpec)
  | unknown (w0 k w1 w2 v w3 : Bytes)

def ESpec.w0 : ESpec → Bytes
  | .known x => x.w0
  | .unknown w0 _ _ _ _ _ => w0

def ESpec.w3 : ESpec → Bytes
  | .known x => x.w3
  | .unknown _ _ _ _ _ w3 => w3

def ESpec.mem? : ESpec → Option EMem
  | .known x => some x.m
  | .unknown _ _ _ _ _ _ => none

/-- `"key" ws : ws value` -/
def ESpec.body (e : EventRec) (tj ec : Bytes) : ESpec → Bytes
  | .known x => memText e tj ec x.m x.w1 x.w2
  | .unknown _ k w1 w2 v _ => 34 :: (k ++ 34 :: (w1 ++ 58 :: (w2 ++ v)))

def ESpec.WsOk : ESpec → Prop
  | .known x => x.WsOk
  | .unknown w0 k w1 w2 v w3 => AllWs w0 ∧ AllWs w1 ∧ AllWs w2 ∧ AllWs w3 ∧ StrBody k ∧ k ∉ knownEKeys ∧
      ∃ d, d ≤ 64 ∧ JT .val d v

/-- the text of an event object after its `{`: the members, known and unknown, in the given order, `}` after the last -/
def evTextU (e : EventRec) (tj ec : Bytes) : List ESpec → Bytes → Bytes
  | [], R => R
  | [x], R => x.w0 ++ (x.body e tj ec ++ Sep x.w3 true R)
  | x :: y :: ms, R => x.w0 ++ (x.body e tj ec ++ Sep x.w3 false (evTextU e tj ec (y :: ms) R))

/-- `evTextU` for the seven known members only -/
def evText (e : EventRec) (tj ec : Bytes) : List MemSpec → Bytes → Bytes
  | [], R => R
  | [x], R => x.w0 ++ (memText e tj ec x.m x.w1 x.w2 ++ Sep x.w3 true R)
  | x :: y :: ms, R => x.w0 ++ (memText e tj ec x.m x.w1 x.w2 ++ Sep x.w3 false (evText e tj ec (y :: ms) R))

end Pocket
