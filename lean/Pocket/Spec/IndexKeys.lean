import Pocket.Model.Keys
/- What the query statements of C05 and C17 are stated with, besides the model: the filters they are about (`SingleLetter`), and
what a range read of an index table returns in terms of byte keys alone (`byteScan`, `rowScan`), which the `*_index_scan`
theorems compare with the scans of `Model/Store.lean` (`ciScan`, `acScan` …, which speak of times and ids). -/
namespace Pocket

/-- every tag constraint is `[letter] :: values` (a NIP-01 filter) -/
def SingleLetter (f : FilterRec) : Prop := ∀ c ∈ f.tags, ∃ l vs, c = [l] :: vs

def insertBy (lt : SEv → SEv → Bool) (x : SEv) : List SEv → List SEv
  | [] => [x]
  | y :: ys => if lt x y then x :: y :: ys else y :: insertBy lt x ys

def sortBy (lt : SEv → SEv → Bool) (l : List SEv) : List SEv := l.foldr (insertBy lt) []

/-- what a range read of a table returns: the entries whose key lies within the bounds, in bytewise key
order (`key x` = the key under which the table holds event `x`) -/
def byteScan (live : List SEv) (key : SEv → Bytes) (lo hi : Bytes) : List SEv :=
  sortBy (fun x y => bytesLt (key x) (key y)) (live.filter fun x => inRange lo hi (key x))

/-- stored events have 32-byte ids and authors, byte-sized bytes, 16-bit kinds and 64-bit times -/
def KeyWf (x : SEv) : Prop :=
  x.e.id.length = 32 ∧ (∀ b ∈ x.e.id, b < 256) ∧ x.e.pubkey.length = 32 ∧ x.e.kind < 65536 ∧ x.e.createdAt ≤ U64MAX

def insertRow (r : Bytes × SEv) : List (Bytes × SEv) → List (Bytes × SEv)
  | [] => [r]
  | y :: ys => if bytesLt r.1 y.1 then r :: y :: ys else y :: insertRow r ys

def sortRows (l : List (Bytes × SEv)) : List (Bytes × SEv) := l.foldr insertRow []

/-- what a range read of a table of rows returns: the events of the rows whose key lies within the
bounds, in bytewise key order -/
def rowScan (rows : List (Bytes × SEv)) (lo hi : Bytes) : List SEv :=
  (sortRows (rows.filter fun r => inRange lo hi r.1)).map (·.2)

/-- the rows of a tag table: for every live event, one row per distinct `(letter, padded value)`;
`pre` is what precedes the letter in the key (nothing, the author, or the kind) -/
def tagRows (live : List SEv) (pre : EventRec → Bytes) : List (Bytes × SEv) :=
  live.flatMap fun x => (tagKeys x.e).map fun lp => ((pre x.e ++ lp.1 :: lp.2) ++ (revTime x.e.createdAt ++ x.e.id), x)

end Pocket
