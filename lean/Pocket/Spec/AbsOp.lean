import Pocket.Spec.AbsStore
/- The operations of `run_refines` (`C12.history_refines_abstract`): a history of `AOp`s refines
from any consistent state, whatever its length.  The full language is `Op` with `absOp` (`Spec/AbsStore.lean`), vanish and
rebuild included: `full_history_refines`, from the empty store, for fewer than 2^32 − 1 operations with `u64` timestamps.
A statement about every history uses `Op`/`absOp`; `AOp` serves where those two bounds are not wanted. -/
namespace Pocket

/-- `Op` without `vanish` and `rebuild` -/
inductive AOp where
  | store (e : EventRec)
  | remove (id : Bytes)
  | reopen

def AOp.toOp : AOp → Op
  | .store e => .store e
  | .remove id => .remove id
  | .reopen => .reopen

def absStep (a : Abs) : AOp → Abs
  | .store e => (absStore a e).2
  | .remove id => absRemove a id
  | .reopen => a

end Pocket
