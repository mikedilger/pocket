import Pocket.Model.Event
/- The model's decoders with the offsets they read at as parameters: `eventDecodeAt r` is `eventDecode`, and `tagsReadAt rs` is
`Tags::delineate` followed by the tag iterator, reading at the offsets listed in `r` / `rs`.  The `*_layout_from_source` statements
(C02, C19) put in the offsets the accessors of event.rs and tags.rs use today (`Src.evReads`, `Src.tagReads`) and say that the
result is the model's decoder. -/
namespace Pocket

/-- the model's decoder with the places it reads at as parameters:
`[kind, created_at, id offset, id length, pubkey offset, pubkey length, sig offset, sig length, tags, tag-section length (as read
by content), width of the content length]` -/
def eventDecodeAt (r : List Nat) (b : Bytes) : Outcome EventRec :=
  match r with
  | [k, t, io, il, po, pl, so, sl, g, g2, w] =>
    (match rd16 b k, rd64 b t, slice b io il, slice b po pl, slice b so sl with
    | .ok kind, .ok t, .ok id, .ok pk, .ok sig =>
      if b.length < g then .panic
      else match tagsDelineate (b.drop g) with
        | .ok tb =>
          match tagsDecode tb with
          | .ok tags =>
            match rd16 b g2 with
            | .ok tl =>
              match rd32 b (g2 + tl) with
              | .ok cl =>
                match slice b (g2 + tl + w) cl with
                | .ok content => .ok ⟨id, pk, sig, kind, t, tags, content⟩
                | _ => .panic
              | _ => .panic
            | _ => .panic
          | .err => .err
          | .panic => .panic
        | .err => .err
        | .panic => .panic
    | _, _, _, _, _ => .panic)
  | _ => .panic

/-- the readers of a tag section with the offsets they use as parameters -/
def readStrsAt (a b c : Nat) (bs : Bytes) : Nat → Nat → Outcome (List Bytes)
  | 0, _ => .ok []
  | n + 1, off =>
    match rd16 bs off with
    | .ok len =>
      match slice bs (off + a) (off + b + len - (off + a)) with
      | .ok s =>
        match readStrsAt a b c bs n (off + c + len) with
        | .ok ss => .ok (s :: ss)
        | .err => .err
        | .panic => .panic
      | .err => .err
      | .panic => .panic
    | .err => .err
    | .panic => .panic

def readTagsFromAt (slot0 w first a b c : Nat) (bs : Bytes) (count : Nat) : Nat → Nat → Outcome TagsRec
  | 0, _ => .ok []
  | n + 1, i =>
    if i ≥ count then .ok []
    else match rd16 bs (slot0 + i * w) with
      | .ok off =>
        match rd16 bs off with
        | .ok cnt =>
          match readStrsAt a b c bs cnt (off + first) with
          | .ok t =>
            match readTagsFromAt slot0 w first a b c bs count n (i + 1) with
            | .ok ts => .ok (t :: ts)
            | .err => .err
            | .panic => .panic
          | .err => .err
          | .panic => .panic
        | .err => .err
        | .panic => .panic
      | .err => .err
      | .panic => .panic

/-- `Tags::delineate` and `tags.iter()` collected, reading where the list says -/
def tagsReadAt (rs : List Nat) (inp : Bytes) : Outcome (Bytes × Outcome TagsRec) :=
  match rs with
  | [least, lenAt, countAt, slot0, w, first, a, b, c] =>
    if inp.length < least then .err
    else match rd16 inp lenAt with
      | .ok len =>
        if inp.length < len then .err
        else
          let sec := inp.take len
          .ok (sec, match rd16 sec countAt with
            | .ok cnt => readTagsFromAt slot0 w first a b c sec cnt cnt 0
            | .err => .err
            | .panic => .panic)
      | .err => .err
      | .panic => .panic
  | _ => .panic

end Pocket
