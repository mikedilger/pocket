import Pocket.Model.JsonParse
/- The JSON texts the parsers are proved to read (C01, C02, C07, C08), as predicates and relations on byte strings:
the end results quantify over every text of a grammar, not over what one rendering function writes.  Decoded strings
(`Spelling`, `Spells`), values that are only skipped (`StrBody`, `NumTxt`, `JT`), the tags array (`TagsText`). -/
namespace Pocket

def AllWs (w : Bytes) : Prop := ∀ b ∈ w, isWs b = true

def NoLeadingDigit (rest : Bytes) : Prop := ∀ b r, rest = b :: r → isDigit b = false

def utf8Of (cps : List Nat) : Bytes := cps.flatMap utf8Bytes

/-- any code points below 0x110000, surrogates not excluded: wider than valid UTF-8 -/
def IsUtf8 (s : Bytes) : Prop := ∃ cps : List Nat, (∀ c ∈ cps, c < 1114112) ∧ s = utf8Of cps

/-- `p` is a way to write the code point `c` inside a JSON string -/
inductive Spelling : Nat → Bytes → Prop
  | raw (c : Nat) : c < 1114112 → isSafeChar c = true → Spelling c (utf8Bytes c)
  | quote : Spelling 34 [92, 34]
  | backslash : Spelling 92 [92, 92]
  | slash : Spelling 47 [92, 47]
  | b : Spelling 8 [92, 98]
  | f : Spelling 12 [92, 102]
  | n : Spelling 10 [92, 110]
  | r : Spelling 13 [92, 114]
  | t : Spelling 9 [92, 116]
  | u (h3 h2 h1 h0 d3 d2 d1 d0 : Nat) : hexVal h3 = some d3 → hexVal h2 = some d2 → hexVal h1 = some d1 →
      hexVal h0 = some d0 →
      ¬ (55296 ≤ d3 * 4096 + d2 * 256 + d1 * 16 + d0 ∧ d3 * 4096 + d2 * 256 + d1 * 16 + d0 ≤ 57343) →
      Spelling (d3 * 4096 + d2 * 256 + d1 * 16 + d0) [92, 117, h3, h2, h1, h0]

inductive SpelledL : List Nat → Bytes → Prop
  | nil : SpelledL [] []
  | cons (c : Nat) (cs : List Nat) (p t : Bytes) : Spelling c p → SpelledL cs t → SpelledL (c :: cs) (p ++ t)

/-- the JSON string body `txt` denotes the UTF-8 string `s` -/
def Spells (s txt : Bytes) : Prop := ∃ cps, SpelledL cps txt ∧ s = utf8Of cps

/-- the body of a JSON string: bytes other than `"` and `\`, or a backslash followed by any byte
(this covers every legal escape, `\uXXXX` included: the four hex digits are ordinary bytes) -/
inductive StrBody : Bytes → Prop
  | nil : StrBody []
  | raw (b : Nat) (r : Bytes) : b ≠ 34 → b ≠ 92 → StrBody r → StrBody (b :: r)
  | esc (c : Nat) (r : Bytes) : StrBody r → StrBody (92 :: c :: r)

/-- what may follow a number: anything that `burn_number` does not take for part of it -/
def HeadNotNum (R : Bytes) : Prop := ∀ b r, R = b :: r → numberChars.contains b = false

/-- a number text: `-` or a digit, then any of the characters `burn_number` takes for part of a number (`numberChars`: JSON's
`.` `e` `E` `+` `-` and digits, and also hex digits, `_`, `o`, `x`, `n`) -/
def NumTxt (n : Bytes) : Prop :=
  ∃ b r, n = b :: r ∧ (b = 45 ∨ isDigit b = true) ∧ ∀ c ∈ r, numberChars.contains c = true

/-- separators between array elements and object members: the code eats whitespace and commas in
any mix; JSON's `ws , ws` is the special case -/
def SepWs (w : Bytes) : Prop := ∀ b ∈ w, isWs b = true ∨ b = 44

inductive JK where
  | val | elems | members

/-- `JT .val d t`: `t` is a JSON value whose arrays and objects nest at most `d` deep;
`JT .elems d t`: `t` is what follows an array's `[` — elements (values of depth ≤ d) and the closing `]`;
`JT .members d t`: what follows an object's `{` — members and the closing `}`. -/
inductive JT : JK → Nat → Bytes → Prop
  | str {d : Nat} (s : Bytes) : StrBody s → JT .val d (34 :: (s ++ [34]))
  | num {d : Nat} (n : Bytes) : NumTxt n → JT .val d n
  | tru {d : Nat} : JT .val d [116, 114, 117, 101]
  | fls {d : Nat} : JT .val d [102, 97, 108, 115, 101]
  | nul {d : Nat} : JT .val d [110, 117, 108, 108]
  | arr {d : Nat} (t : Bytes) : JT .elems d t → JT .val (d + 1) (91 :: t)
  | obj {d : Nat} (t : Bytes) : JT .members d t → JT .val (d + 1) (123 :: t)
  | eEnd {d : Nat} (w : Bytes) : SepWs w → JT .elems d (w ++ [93])
  | eCons {d : Nat} (w v rest : Bytes) : SepWs w → JT .val d v → JT .elems d rest → HeadNotNum rest →
      JT .elems d (w ++ (v ++ rest))
  | mEnd {d : Nat} (w : Bytes) : SepWs w → JT .members d (w ++ [125])
  | mCons {d : Nat} (w k w1 w2 v rest : Bytes) : SepWs w → StrBody k → AllWs w1 → AllWs w2 →
      JT .val d v → JT .members d rest → HeadNotNum rest →
      JT .members d (w ++ 34 :: (k ++ 34 :: (w1 ++ 58 :: (w2 ++ (v ++ rest)))))

/-- what follows a string of a tag: more strings, then `]` -/
inductive StrsRest : List Bytes → Bytes → Prop
  | close (w : Bytes) : AllWs w → StrsRest [] (w ++ [93])
  | more (s : Bytes) (ss : List Bytes) (w w' e r : Bytes) : AllWs w → AllWs w' → Spells s e → StrsRest ss r →
      StrsRest (s :: ss) (w ++ 44 :: (w' ++ 34 :: (e ++ 34 :: r)))

/-- what follows a tag's `[`, blanks already eaten: `]`, or a first string and the rest -/
inductive TagBody : List Bytes → Bytes → Prop
  | empty : TagBody [] [93]
  | strs (s : Bytes) (ss : List Bytes) (e r : Bytes) : Spells s e → StrsRest ss r →
      TagBody (s :: ss) (34 :: (e ++ 34 :: r))

/-- what follows a tag's `]`: more tags, then the outer `]` -/
inductive TagsRest : TagsRec → Bytes → Prop
  | close (w : Bytes) : AllWs w → TagsRest [] (w ++ [93])
  | more (t : List Bytes) (ts : TagsRec) (w w' w'' tb r : Bytes) : AllWs w → AllWs w' → AllWs w'' → TagBody t tb →
      TagsRest ts r → TagsRest (t :: ts) (w ++ 44 :: (w' ++ 91 :: (w'' ++ (tb ++ r))))

/-- the whole array: `[ ws ]`, or `[ ws [ ws tag … ] … ]` -/
inductive TagsText : TagsRec → Bytes → Prop
  | empty (w : Bytes) : AllWs w → TagsText [] (91 :: (w ++ [93]))
  | tags (t : List Bytes) (ts : TagsRec) (w w'' tb r : Bytes) : AllWs w → AllWs w'' → TagBody t tb → TagsRest ts r →
      TagsText (t :: ts) (91 :: (w ++ 91 :: (w'' ++ (tb ++ r))))

def TagsUtf8 (ts : TagsRec) : Prop := ∀ t ∈ ts, ∀ s ∈ t, IsUtf8 s

end Pocket
