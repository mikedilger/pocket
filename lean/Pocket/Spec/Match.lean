import Pocket.Model.Filter
/- NIP-01 matching as the property C06 states it (the predicate `eventMatches` is compared with). -/
namespace Pocket.C06
open Pocket

/-- NIP-01 matching, as the property states it.  A tag constraint is `name :: values`. -/
def matchesSpec (f : FilterRec) (e : EventRec) : Prop :=
  (f.ids = [] ∨ e.id ∈ f.ids) ∧
  (f.authors = [] ∨ e.pubkey ∈ f.authors) ∧
  (f.kinds = [] ∨ e.kind ∈ f.kinds) ∧
  f.since ≤ e.createdAt ∧ e.createdAt ≤ f.until ∧
  ∀ c ∈ f.tags, ∃ t ∈ e.tags, ∃ v ∈ c.tail, t[0]? = c.head? ∧ t[1]? = some v

/-- every tag constraint has a name (an unnamed one can only be built with `from_parts`) -/
def TagsNamed (f : FilterRec) : Prop := ∀ c ∈ f.tags, c ≠ []

end Pocket.C06
