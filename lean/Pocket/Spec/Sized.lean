import Pocket.Model.Filter
/- Which events and filters the binary formats can hold: every field within the width the layout gives it.  The end results
about encoding, parsing and storing (C01–C04, C07, C08, C19) are stated for such records. -/
namespace Pocket

/-- an event whose parts fit the binary format's fields -/
structure EventSized (e : EventRec) : Prop where
  id : e.id.length = 32
  pk : e.pubkey.length = 32
  sig : e.sig.length = 64
  kind : e.kind < 65536
  t : e.createdAt < 18446744073709551616
  tags : tagsSize e.tags ≤ 65535
  content : eventSize (tagsSize e.tags) e.content.length ≤ 4294967295

structure FilterSized (f : FilterRec) : Prop where
  ids : ∀ x ∈ f.ids, x.length = 32
  authors : ∀ x ∈ f.authors, x.length = 32
  kinds : ∀ k ∈ f.kinds, k < 65536
  nIds : f.ids.length ≤ 65535
  nAuthors : f.authors.length ≤ 65535
  nKinds : f.kinds.length ≤ 65535
  tags : tagsSize f.tags ≤ 65535
  since : f.since < 18446744073709551616
  «until» : f.until < 18446744073709551616
  limit : f.limit < 4294967296

end Pocket
