import Pocket.Model.ParseFilter
import Pocket.Spec.JsonText
import Pocket.Spec.Sized
/- The texts of a filter object that `Filter::from_json` is proved to read, and the filter such a text denotes (C07).
A text is a list of members with their separators (`FMem`, `FSpec`, `flText`); a tag member carries its value text, the six
NIP-01 members are written as `as_json` writes them (`fVal`).  What a text denotes is computed on the member list alone:
`FAbs` holds the members read so far, `FAbs.accepts` says when a list is accepted (each value admitted, `FMemOk`, and no
`slot` twice), `(({} : FAbs).run ms).toFilter` is the resulting filter.  `FilterCanon` is the hypothesis of the round trip. -/
namespace Pocket

inductive FMem where
  | ids (l : List Bytes)
  | authors (l : List Bytes)
  | kinds (l : List Nat)
  | since (n : Nat)
  | «until» (n : Nat)
  | limit (n : Nat)
  | tag (l : Nat) (vs : List Bytes) (vj : Bytes)
  | unknown (k v : Bytes)

def fKey : FMem → Bytes
  | .ids _ => [105, 100, 115]
  | .authors _ => [97, 117, 116, 104, 111, 114, 115]
  | .kinds _ => [107, 105, 110, 100, 115]
  | .since _ => [115, 105, 110, 99, 101]
  | .until _ => [117, 110, 116, 105, 108]
  | .limit _ => [108, 105, 109, 105, 116]
  | .tag l _ _ => [35, l]
  | .unknown k _ => k

def fVal : FMem → Bytes
  | .ids l => 91 :: (idsJson l true ++ [93])
  | .authors l => 91 :: (idsJson l true ++ [93])
  | .kinds l => 91 :: (kindsJson l true ++ [93])
  | .since n => decOf n
  | .until n => decOf n
  | .limit n => decOf n
  | .tag _ _ vj => 91 :: (vj ++ [93])
  | .unknown _ v => v

/-- `"key" ws : ws value` -/
def fmemText (m : FMem) (w1 w2 : Bytes) : Bytes := 34 :: (fKey m ++ 34 :: (w1 ++ 58 :: (w2 ++ fVal m)))

def knownFKeys : List Bytes :=
  [[105, 100, 115], [97, 117, 116, 104, 111, 114, 115], [107, 105, 110, 100, 115],
   [115, 105, 110, 99, 101], [117, 110, 116, 105, 108], [108, 105, 109, 105, 116]]

/-- which values are admitted.  `limit`: below 2^64, not 2^32: it is read by `read_u64` (filter.rs 831) and then saturated
(833, `satLimit`) -/
def FMemOk : FMem → Prop
  | .ids l => ∀ x ∈ l, x.length = 32 ∧ ∀ b ∈ x, b < 256
  | .authors l => ∀ x ∈ l, x.length = 32 ∧ ∀ b ∈ x, b < 256
  | .kinds l => ∀ k ∈ l, k < 65536
  | .since n => n < 18446744073709551616
  | .until n => n < 18446744073709551616
  | .limit n => n < 18446744073709551616
  | .tag l vs vj => isLetter l = true ∧ (∀ v ∈ vs, IsUtf8 v) ∧ ftagValuesJson vs true = .ok vj ∧ vs.length + 1 ≤ 65535
  | .unknown k v => StrBody k ∧ k ∉ knownFKeys ∧ (∀ l, isLetter l = true → k ≠ [35, l]) ∧ ∃ d, d ≤ 64 ∧ JT .val d v

/-- the filter denoted by the members read so far -/
structure FAbs where
  ids : Option (List Bytes) := none
  authors : Option (List Bytes) := none
  kinds : Option (List Nat) := none
  since : Option Nat := none
  «until» : Option Nat := none
  limit : Option Nat := none
  /-- tag constraints in order of appearance: letter, values -/
  tags : List (Nat × List Bytes) := []

def FAbs.apply (A : FAbs) : FMem → FAbs
  | .ids l => { A with ids := some l }
  | .authors l => { A with authors := some l }
  | .kinds l => { A with kinds := some l }
  | .since n => { A with since := some n }
  | .until n => { A with «until» := some n }
  | .limit n => { A with limit := some n }
  | .tag l vs _ => { A with tags := A.tags ++ [(l, vs)] }
  | .unknown _ _ => A

def FAbs.fresh (A : FAbs) : FMem → Prop
  | .ids _ => A.ids = none
  | .authors _ => A.authors = none
  | .kinds _ => A.kinds = none
  | .since _ => A.since = none
  | .until _ => A.until = none
  | .limit _ => A.limit = none
  | .tag l _ _ => l ∉ A.tags.map Prod.fst
  | .unknown _ _ => True

def FAbs.accepts (A : FAbs) : List FMem → Prop
  | [] => True
  | m :: ms => A.fresh m ∧ FMemOk m ∧ (A.apply m).accepts ms

def FAbs.run (A : FAbs) (ms : List FMem) : FAbs := ms.foldl FAbs.apply A

def satLimit (n : Nat) : Nat := if n > U32MAX then U32MAX else n

def FAbs.toFilter (A : FAbs) : FilterRec :=
  { ids := A.ids.getD [], authors := A.authors.getD [], kinds := A.kinds.getD [],
    tags := A.tags.map (fun t => [t.1] :: t.2),
    since := A.since.getD 0, «until» := A.until.getD U64MAX, limit := (A.limit.map satLimit).getD U32MAX }

/-- a member with its separators: before the key (whitespace and commas), before and after the colon -/
structure FSpec where
  w0 : Bytes
  w1 : Bytes
  w2 : Bytes
  m : FMem

def FSpec.WsOk (x : FSpec) : Prop := SepWs x.w0 ∧ AllWs x.w1 ∧ AllWs x.w2

/-- the text of a filter object after its `{`: the members in the given order, then `R` -/
def flText : List FSpec → Bytes → Bytes
  | [], R => R
  | x :: xs, R => x.w0 ++ (fmemText x.m x.w1 x.w2 ++ flText xs R)

/-- which slot a member fills: the six NIP-01 members 0–5, the tag letter `l` `6 + l`, an unknown member none -/
def slot : FMem → Option Nat
  | .ids _ => some 0
  | .authors _ => some 1
  | .kinds _ => some 2
  | .since _ => some 3
  | .until _ => some 4
  | .limit _ => some 5
  | .tag l _ _ => some (6 + l)
  | .unknown _ _ => none

def FTagOk (t : List Bytes) : Prop :=
  ∃ l vs, t = [l] :: vs ∧ isLetter l = true ∧ (∀ v ∈ vs, IsUtf8 v) ∧ vs.length + 1 ≤ 65535

def tagLetter (t : List Bytes) : Nat :=
  match t with
  | (l :: _) :: _ => l
  | _ => 0

/-- the hypothesis of the round trip (`as_json` writes it in a form the parser reads back): sized fields, and
tag constraints named by distinct letters (hence at most 52) with UTF-8 values -/
structure FilterCanon (f : FilterRec) : Prop where
  sized : FilterSized f
  idb : ∀ x ∈ f.ids, ∀ b ∈ x, b < 256
  aub : ∀ x ∈ f.authors, ∀ b ∈ x, b < 256
  tagsOk : ∀ t ∈ f.tags, FTagOk t
  letters : (f.tags.map tagLetter).Nodup

end Pocket
