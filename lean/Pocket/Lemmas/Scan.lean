import Pocket.Model.Store
import Pocket.Lemmas.ListAux
import Pocket.Spec.IndexKeys
/- The two insertion sorts of the queries (`sortScan` of a range scan, `sortOut` of the answer) are `sortBy`: a permutation, newest
first if the comparison puts the newer event first.  Hence what a scan holds, duplicate-free and newest first. -/
namespace Pocket

theorem sortBy_cons (lt : SEv → SEv → Bool) (x : SEv) (xs : List SEv) :
    sortBy lt (x :: xs) = insertBy lt x (sortBy lt xs) := rfl

theorem insertBy_perm (lt : SEv → SEv → Bool) (x : SEv) (l : List SEv) : (insertBy lt x l).Perm (x :: l) :=
  insert_perm (insertBy lt) lt (fun _ => rfl) (fun _ _ _ => rfl) x l

theorem sortBy_perm (lt : SEv → SEv → Bool) (l : List SEv) : (sortBy lt l).Perm l :=
  foldr_insert_perm _ (insertBy_perm lt) l

theorem sortBy_newestFirst (lt tie : SEv → SEv → Bool)
    (hlt : ∀ x y, lt x y = (decide (x.e.createdAt > y.e.createdAt) || (x.e.createdAt == y.e.createdAt && tie x y)))
    (l : List SEv) : (sortBy lt l).Pairwise (fun a b => a.e.createdAt ≥ b.e.createdAt) := by
  induction l with
  | nil => exact .nil
  | cons x xs ih =>
    rw [sortBy_cons]
    generalize sortBy lt xs = s at ih
    induction s with
    | nil => simp [insertBy]
    | cons a s ihs =>
      rw [List.pairwise_cons] at ih
      unfold insertBy
      split
      · rename_i hb
        have hxa : x.e.createdAt ≥ a.e.createdAt := by
          simp only [hlt, Bool.or_eq_true, decide_eq_true_eq, Bool.and_eq_true, beq_iff_eq] at hb
          exact hb.elim Nat.le_of_lt fun h => Nat.le_of_eq h.1.symm
        refine List.pairwise_cons.mpr ⟨fun y hy => ?_, List.pairwise_cons.mpr ih⟩
        rcases List.mem_cons.mp hy with rfl | hy
        · exact hxa
        · exact Nat.le_trans (ih.1 y hy) hxa
      · rename_i hb
        have hax : a.e.createdAt ≥ x.e.createdAt := by
          simp only [hlt, Bool.or_eq_true, decide_eq_true_eq, not_or] at hb
          exact Nat.le_of_not_lt hb.1
        refine List.pairwise_cons.mpr ⟨fun y hy => ?_, ihs ih.2⟩
        rcases List.mem_cons.mp ((insertBy_perm lt x s).mem_iff.mp hy) with rfl | hy
        · exact hax
        · exact ih.1 y hy

theorem insertBy_congr (lt1 lt2 : SEv → SEv → Bool) (x : SEv) (l : List SEv) (h : ∀ y ∈ l, lt1 x y = lt2 x y) :
    insertBy lt1 x l = insertBy lt2 x l := by
  induction l with
  | nil => rfl
  | cons y ys ih =>
    simp only [insertBy, h y (by simp), ih (fun z hz => h z (by simp [hz]))]

theorem sortBy_congr (lt1 lt2 : SEv → SEv → Bool) (l : List SEv) (h : ∀ x ∈ l, ∀ y ∈ l, lt1 x y = lt2 x y) :
    sortBy lt1 l = sortBy lt2 l := by
  induction l with
  | nil => rfl
  | cons x xs ih =>
    rw [sortBy_cons, sortBy_cons, ih (fun a ha b hb => h a (by simp [ha]) b (by simp [hb]))]
    exact insertBy_congr lt1 lt2 x _ (fun y hy => h x (by simp) y (by
      have := (sortBy_perm lt2 xs).mem_iff.mp hy; simp [this]))

/-- an insertion sort the model writes out is `sortBy` of its comparison -/
theorem foldr_insert_eq_sortBy (ins : SEv → List SEv → List SEv) (lt : SEv → SEv → Bool) (hnil : ∀ x, ins x [] = [x])
    (hcons : ∀ x y ys, ins x (y :: ys) = if lt x y then x :: y :: ys else y :: ins x ys) (l : List SEv) :
    l.foldr ins [] = sortBy lt l := by
  have hins : ∀ x m, ins x m = insertBy lt x m := by
    intro x m
    induction m with
    | nil => exact hnil x
    | cons y ys ih => rw [hcons, insertBy, ih]
  induction l with
  | nil => rfl
  | cons x xs ih => rw [List.foldr_cons, ih, hins]; rfl

theorem sortScan_eq (l : List SEv) : sortScan l = sortBy scanBefore l :=
  foldr_insert_eq_sortBy insertSorted scanBefore (fun _ => rfl) (fun _ _ _ => rfl) l

theorem sortOut_eq (l : List SEv) : sortOut l = sortBy outBefore l :=
  foldr_insert_eq_sortBy insertOutSorted outBefore (fun _ => rfl) (fun _ _ _ => rfl) l

theorem sortScan_perm (l : List SEv) : (sortScan l).Perm l := by
  rw [sortScan_eq]; exact sortBy_perm _ l

theorem sortOut_perm (l : List SEv) : (sortOut l).Perm l := by
  rw [sortOut_eq]; exact sortBy_perm _ l

theorem sortOut_length (l : List SEv) : (sortOut l).length = l.length := (sortOut_perm l).length_eq

theorem sortScan_sorted (l : List SEv) : (sortScan l).Pairwise (fun a b => a.e.createdAt ≥ b.e.createdAt) := by
  rw [sortScan_eq]; exact sortBy_newestFirst _ (fun x y => bytesLt x.e.id y.e.id) (fun _ _ => rfl) l

theorem sortOut_sorted (l : List SEv) : (sortOut l).Pairwise (fun a b => a.e.createdAt ≥ b.e.createdAt) := by
  rw [sortOut_eq]; exact sortBy_newestFirst _ (fun x y => bytesLt y.e.id x.e.id) (fun _ _ => rfl) l

theorem scan_mem_iff (live : List SEv) (p : EventRec → Bool) (since «until» : Nat) (x : SEv) :
    x ∈ scan live p since «until» ↔
      (x ∈ live ∧ p x.e = true ∧ since ≤ x.e.createdAt ∧ x.e.createdAt ≤ «until») := by
  unfold scan
  rw [(sortScan_perm _).mem_iff]
  simp only [List.mem_filter, Bool.and_eq_true, decide_eq_true_eq, and_assoc]

theorem scan_filter (live : List SEv) (h p : EventRec → Bool) (since «until» : Nat) :
    scan (live.filter fun x => h x.e) p since «until» = scan live (fun e => p e && h e) since «until» := by
  unfold scan
  rw [List.filter_filter]
  exact congrArg sortScan (List.filter_congr fun x _ => by simp only [Bool.and_assoc, Bool.and_comm])

theorem scan_subset {live : List SEv} {p : EventRec → Bool} {a b : Nat} : scan live p a b ⊆ live :=
  fun x hx => ((scan_mem_iff live p a b x).mp hx).1

theorem nodup_of_ids (live : List SEv) (hids : (live.map (·.e.id)).Nodup) : live.Nodup := by
  rw [List.Nodup, List.pairwise_map] at hids
  exact hids.imp (fun h hab => h (by rw [hab]))

theorem scan_nodup (live : List SEv) (hids : (live.map (·.e.id)).Nodup) (p : EventRec → Bool) (a b : Nat) :
    (scan live p a b).Nodup := by
  unfold scan
  exact (sortScan_perm _).nodup_iff.mpr ((nodup_of_ids live hids).filter _)

theorem scan_sorted (live : List SEv) (p : EventRec → Bool) (a b : Nat) :
    (scan live p a b).Pairwise (fun a b => a.e.createdAt ≥ b.e.createdAt) := by
  unfold scan; exact sortScan_sorted _

end Pocket
