import Pocket.Lemmas.Layout
import Pocket.Spec.FilterText
/- The order of the members does not matter (C07): member lists and the filter they denote (`FAbs`), nothing about the parser.
Acceptance is "every value admitted, no slot twice, none already filled", which a permutation keeps; two members of different
slots commute up to the order of the tag constraints, which neither `FilterSized` nor the length of the encoding sees. -/
namespace Pocket

theorem FAbs.fresh_apply (A : FAbs) (m m' : FMem) :
    (A.apply m).fresh m' ↔ A.fresh m' ∧ (slot m' = none ∨ slot m' ≠ slot m) := by
  cases m <;> cases m'
  -- the same slot: `m` has filled it (for two tag members, if the letters agree)
  case ids.ids | authors.authors | kinds.kinds | since.since | until.until | limit.limit | tag.tag =>
    simp [FAbs.apply, FAbs.fresh, slot]
  -- an unknown member is always fresh
  case ids.unknown | authors.unknown | kinds.unknown | since.unknown | until.unknown | limit.unknown | tag.unknown
      | unknown.unknown =>
    exact ⟨fun _ => ⟨trivial, .inl rfl⟩, fun _ => trivial⟩
  -- different slots: `m` wrote another field, or none
  all_goals exact ⟨fun h => ⟨h, .inr (by simp [slot] <;> omega)⟩, fun h => h.1⟩

theorem FAbs.fresh_empty (m : FMem) : ({} : FAbs).fresh m := by
  cases m <;> simp [FAbs.fresh]

theorem FAbs.accepts_iff (ms : List FMem) (A : FAbs) :
    A.accepts ms ↔ (∀ m ∈ ms, FMemOk m) ∧ (ms.filterMap slot).Nodup ∧ ∀ m ∈ ms, A.fresh m := by
  induction ms generalizing A with
  | nil => simp [FAbs.accepts]
  | cons m ms ih =>
    simp only [FAbs.accepts, ih (A.apply m), FAbs.fresh_apply, List.mem_cons, forall_eq_or_imp]
    rw [nodup_filterMap_cons]
    constructor
    · rintro ⟨h1, h2, h3, h4, h5⟩
      exact ⟨⟨h2, h3⟩, ⟨h4, fun m' hm' => (h5 m' hm').2⟩, h1, fun m' hm' => (h5 m' hm').1⟩
    · rintro ⟨⟨h2, h3⟩, ⟨h4, h6⟩, h1, h5⟩
      exact ⟨h1, h2, h3, h4, fun m' hm' => ⟨h5 m' hm', h6 m' hm'⟩⟩

theorem FAbs.accepts_empty_iff (ms : List FMem) :
    ({} : FAbs).accepts ms ↔ (∀ m ∈ ms, FMemOk m) ∧ (ms.filterMap slot).Nodup :=
  (FAbs.accepts_iff ms {}).trans ⟨fun h => ⟨h.1, h.2.1⟩, fun h => ⟨h.1, h.2, fun m _ => FAbs.fresh_empty m⟩⟩

theorem FAbs.accepts_perm (ms₁ ms₂ : List FMem) (hp : ms₁.Perm ms₂) (A : FAbs) (h : A.accepts ms₁) : A.accepts ms₂ := by
  rw [FAbs.accepts_iff] at h ⊢
  obtain ⟨h1, h2, h3⟩ := h
  exact ⟨fun m hm => h1 m (hp.mem_iff.mpr hm), (hp.filterMap slot).nodup_iff.mp h2, fun m hm => h3 m (hp.mem_iff.mpr hm)⟩

structure FAbs.Equiv (A B : FAbs) : Prop where
  ids : A.ids = B.ids
  authors : A.authors = B.authors
  kinds : A.kinds = B.kinds
  since : A.since = B.since
  «until» : A.until = B.until
  limit : A.limit = B.limit
  tags : A.tags.Perm B.tags

theorem FAbs.Equiv.refl (A : FAbs) : A.Equiv A := ⟨rfl, rfl, rfl, rfl, rfl, rfl, List.Perm.refl _⟩

theorem FAbs.Equiv.apply (A B : FAbs) (h : A.Equiv B) (m : FMem) : (A.apply m).Equiv (B.apply m) := by
  cases m with
  | ids l => exact { h with ids := rfl }
  | authors l => exact { h with authors := rfl }
  | kinds l => exact { h with kinds := rfl }
  | since n => exact { h with since := rfl }
  | «until» n => exact { h with «until» := rfl }
  | limit n => exact { h with limit := rfl }
  | tag l vs vj => exact { h with tags := h.tags.append_right _ }
  | unknown k v => exact h

theorem FAbs.Equiv.run (ms : List FMem) (A B : FAbs) (h : A.Equiv B) : (A.run ms).Equiv (B.run ms) := by
  induction ms generalizing A B with
  | nil => exact h
  | cons m ms ih => exact ih _ _ (FAbs.Equiv.apply A B h m)

theorem FAbs.Equiv.trans {A B C : FAbs} (h1 : A.Equiv B) (h2 : B.Equiv C) : A.Equiv C :=
  ⟨h1.ids.trans h2.ids, h1.authors.trans h2.authors, h1.kinds.trans h2.kinds, h1.since.trans h2.since,
   h1.until.trans h2.until, h1.limit.trans h2.limit, h1.tags.trans h2.tags⟩

theorem FAbs.Equiv.swap (A : FAbs) (a b : FMem) (hab : slot b = none ∨ slot b ≠ slot a) :
    ((A.apply a).apply b).Equiv ((A.apply b).apply a) := by
  cases a <;> cases b
  case tag.tag =>
    -- two tag members: their two entries swap
    exact ⟨rfl, rfl, rfl, rfl, rfl, rfl, by
      simp only [FAbs.apply, List.append_assoc]
      exact List.Perm.append_left _ (List.Perm.swap _ _ _)⟩
  case ids.ids | authors.authors | kinds.kinds | since.since | until.until | limit.limit => simp [slot] at hab
  -- every other pair writes two different fields, or one of them nothing: the same record
  all_goals exact FAbs.Equiv.refl _

theorem FAbs.run_perm (ms₁ ms₂ : List FMem) (hp : ms₁.Perm ms₂) (hnd : (ms₁.filterMap slot).Nodup) (A : FAbs) :
    (A.run ms₁).Equiv (A.run ms₂) := by
  induction hp generalizing A with
  | nil => exact FAbs.Equiv.refl _
  | @cons m l₁ l₂ _ ih => exact ih ((nodup_filterMap_cons slot m l₁).mp hnd).1 (A.apply m)
  | swap a b l =>
    exact FAbs.Equiv.run l _ _ (FAbs.Equiv.swap A b a (((nodup_filterMap_cons slot b (a :: l)).mp hnd).2 a (List.mem_cons_self ..)))
  | trans h1 _ ih1 ih2 =>
    exact FAbs.Equiv.trans (ih1 hnd A) (ih2 ((h1.filterMap slot).nodup_iff.mp hnd) A)

theorem tagsBodySize_perm (t₁ t₂ : TagsRec) (h : t₁.Perm t₂) : tagsBodySize t₁ = tagsBodySize t₂ := by
  induction h with
  | nil => rfl
  | cons _ _ ih => simp [tagsBodySize, ih]
  | swap _ _ _ => simp only [tagsBodySize]; omega
  | trans _ _ ih1 ih2 => exact ih1.trans ih2

theorem FAbs.toFilter_equiv (A B : FAbs) (h : A.Equiv B) :
    A.toFilter.ids = B.toFilter.ids ∧ A.toFilter.authors = B.toFilter.authors ∧ A.toFilter.kinds = B.toFilter.kinds ∧
    A.toFilter.since = B.toFilter.since ∧ A.toFilter.until = B.toFilter.until ∧ A.toFilter.limit = B.toFilter.limit ∧
    A.toFilter.tags.Perm B.toFilter.tags := by
  obtain ⟨h1, h2, h3, h4, h5, h6, h7⟩ := h
  refine ⟨?_, ?_, ?_, ?_, ?_, ?_, h7.map _⟩ <;> simp only [FAbs.toFilter, h1, h2, h3, h4, h5, h6]

theorem sized_equiv (f g : FilterRec) (hs : FilterSized f)
    (h : f.ids = g.ids ∧ f.authors = g.authors ∧ f.kinds = g.kinds ∧ f.since = g.since ∧ f.until = g.until ∧
      f.limit = g.limit ∧ f.tags.Perm g.tags) :
    FilterSized g ∧ (encodeFilter g).length = (encodeFilter f).length := by
  obtain ⟨h1, h2, h3, h4, h5, h6, h7⟩ := h
  have hts : tagsSize g.tags = tagsSize f.tags := by
    unfold tagsSize; rw [tagsBodySize_perm _ _ h7, h7.length_eq]
  have hsg : FilterSized g := by
    obtain ⟨s1, s2, s3, s4, s5, s6, s7, s8, s9, s10⟩ := hs
    exact ⟨h1 ▸ s1, h2 ▸ s2, h3 ▸ s3, h1 ▸ s4, h2 ▸ s5, h3 ▸ s6, hts ▸ s7, h4 ▸ s8, h5 ▸ s9, h6 ▸ s10⟩
  refine ⟨hsg, ?_⟩
  rw [encodeFilter_length g hsg, encodeFilter_length f hs, hts, ← h1, ← h2, ← h3]

end Pocket
