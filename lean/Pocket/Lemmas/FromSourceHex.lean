import Pocket.Src.Hex
import Pocket.Lemmas.Hex
/- The `HEX_INVERSE` table of the source (`Pocket/Src/Hex.lean`, regenerated from /repo on every check run) against the model's
`hexInv` and `hexVal`. -/
namespace Pocket

theorem hexInverse_eq : Src.hexInverse = (List.range 128).map fun b => (hexInv b).getD 255 := by decide +kernel

/-- the lookup of `read_hex!` (index by byte; 255 or outside the table: not a hex character) is `hexInv` -/
theorem hex_table_from_source (b : Nat) (hb : b < 256) :
    hexInv b = (match Src.hexInverse[b]? with | some h => if h = 255 then none else some h | none => none) := by
  rw [hexInverse_eq, List.getElem?_map]
  cases hv : hexInv b with
  | some v =>
    -- a hex character is below 128 and its value below 16, so the entry is there and is not 255
    have := hexInv_eq_some.1 hv
    rw [List.getElem?_range (by omega), Option.map_some, hv, Option.getD_some]
    exact (if_neg (by omega)).symm
  | none =>
    by_cases h : b < 128
    · rw [List.getElem?_range h, Option.map_some, hv]; rfl
    · rw [List.getElem?_eq_none (by simpa using h)]; rfl

/-- the lookup of `json_unescape`'s `\u` digits in that table, by code point, is `hexVal` -/
theorem hex_table_unescape_from_source (b : Nat) (hb : b < 256) :
    hexVal b = (match Src.hexInverse[b]? with | some h => if h = 255 then none else some h | none => none) :=
  hexVal_eq_hexInv b ▸ hex_table_from_source b hb

end Pocket
