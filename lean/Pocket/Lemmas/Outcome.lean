import Pocket.Model.Basic
/- `o.All P`: `o` is not a panic and `P` holds of its value.  A proof of `(f …).All P` walks `f` once: `outcome_step` at a call that hands
its error on, `All.both` at an `if`, `All.ite` where a branch needs to know how the test came out. -/
namespace Pocket

/-- `o.All P`: `o` is not a panic, and `P` holds of its value if it has one -/
def Outcome.All {α : Type} (P : α → Prop) : Outcome α → Prop
  | .ok a => P a
  | .err => True
  | .panic => False

namespace Outcome.All
variable {α : Type} {P Q : α → Prop} {o : Outcome α}

theorem ne_panic (h : o.All P) : o ≠ .panic := by rintro rfl; exact h
theorem of_ok (h : o.All P) {a : α} (e : o = .ok a) : P a := by subst e; exact h
theorem mono (h : o.All P) (pq : ∀ a, P a → Q a) : o.All Q := by
  cases o with
  | ok a => exact pq a h
  | err => trivial
  | panic => exact h

/-- the rule for the propagating `match`.  An eliminator: each such `match` is compiled to a matcher of its own, and no
lemma about one applies to another; `elab_as_elim` finds the scrutinee in the goal -/
@[elab_as_elim] theorem elim {motive : Outcome α → Prop} (h : o.All Q)
    (ok : ∀ a, Q a → motive (.ok a)) (err : motive .err) : motive o := by
  cases o with
  | ok a => exact ok a h
  | err => exact err
  | panic => exact h.elim

/-- an `if` without a case split of the goal: the cost does not grow with the depth of the chain -/
theorem ite {c : Prop} [Decidable c] {a b : Outcome α} (ha : c → a.All P) (hb : ¬c → b.All P) :
    (if c then a else b).All P := by
  split
  · exact ha ‹c›
  · exact hb ‹¬c›

/-- `ite` where neither branch needs to know how the test came out -/
theorem both {c : Prop} [Decidable c] {a b : Outcome α} (ha : a.All P) (hb : b.All P) :
    (if c then a else b).All P := ite (fun _ => ha) fun _ => hb
end Outcome.All

theorem ite_err_eq_ok {α : Type} {c : Prop} [Decidable c] {v out : α} :
    (if c then Outcome.err else .ok v) = .ok out ↔ ¬ c ∧ v = out := by
  by_cases hc : c
  · rw [if_pos hc]; exact ⟨nofun, fun h => absurd hc h.1⟩
  · rw [if_neg hc, Outcome.ok.injEq]; exact ⟨fun h => ⟨hc, h⟩, fun h => h.2⟩

/-- `outcome_step t with x hx`, where `t : o.All Q`, on a goal
`All P (match o with | .ok x => k x | .err => .err | .panic => .panic)`: leaves `All P (k x)` under `hx : Q x` -/
macro "outcome_step " t:term " with " x:rintroPat ppSpace h:rintroPat : tactic =>
  `(tactic| (refine Outcome.All.elim $t ?_ trivial; rintro $x $h <;> dsimp only at *))

end Pocket
