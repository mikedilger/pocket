import Pocket.Model.Escape
import Pocket.Model.JsonParse
import Pocket.Spec.JsonText
import Pocket.Lemmas.Hex
import Pocket.Lemmas.ListAux
/- JSON strings (C01, C02, C07, C08).  One relation, `Spelling c p` (`Spec/JsonText.lean`), carries every fact:
`json_unescape` reads every spelling back, `burn_string` skips it, `json_escape` writes one.  The round trip, the
injectivity of escaping and the skipping of escaped text are corollaries. -/
namespace Pocket

theorem ncp_ascii (x : Nat) (r : Bytes) (h : x < 128) : nextCodePoint (x :: r) = .ok (some (x, 1)) := by
  simp [nextCodePoint, h]

theorem ncp_two (a b : Nat) (r : Bytes) (ha : a < 32) (hb : b < 64) :
    nextCodePoint ((a + 192) :: (b + 128) :: r) = .ok (some (a * 64 + b, 2)) := by
  rw [nextCodePoint, if_neg (Nat.not_lt.mpr (Nat.le_add_left_of_le (by decide)))]
  dsimp only
  rw [if_neg (Nat.not_le.mpr (Nat.add_lt_add_right ha 192)), show (a + 192) % 32 = a from add_mul_mod_lt 6 ha,
    show (b + 128) % 64 = b from add_mul_mod_lt 2 hb]

theorem ncp_three (a b d : Nat) (r : Bytes) (ha : a < 16) (hb : b < 64) (hd : d < 64) :
    nextCodePoint ((a + 224) :: (b + 128) :: (d + 128) :: r) = .ok (some (a * 4096 + (b * 64 + d), 3)) := by
  rw [nextCodePoint, if_neg (Nat.not_lt.mpr (Nat.le_add_left_of_le (by decide)))]
  dsimp only
  rw [if_pos (Nat.le_add_left_of_le (Nat.le_refl 224)), if_neg (Nat.not_le.mpr (Nat.add_lt_add_right ha 224)),
    show (a + 224) % 32 = a from add_mul_mod_lt (n := 32) 7 (Nat.lt_trans ha (by decide)),
    show (b + 128) % 64 = b from add_mul_mod_lt 2 hb, show (d + 128) % 64 = d from add_mul_mod_lt 2 hd]

theorem ncp_four (a b d e : Nat) (r : Bytes) (ha : a < 8) (hb : b < 64) (hd : d < 64) (he : e < 64) :
    nextCodePoint ((a + 240) :: (b + 128) :: (d + 128) :: (e + 128) :: r) =
      .ok (some (a * 262144 + ((b * 64 + d) * 64 + e), 4)) := by
  rw [nextCodePoint, if_neg (Nat.not_lt.mpr (Nat.le_add_left_of_le (by decide)))]
  dsimp only
  rw [if_pos (Nat.le_add_left_of_le (by decide)), if_pos (Nat.le_add_left_of_le (Nat.le_refl 240)),
    show (a + 240) % 32 % 8 = a from (Nat.mod_mod_of_dvd _ (by decide)).trans (add_mul_mod_lt 30 ha),
    show (b + 128) % 64 = b from add_mul_mod_lt 2 hb, show (d + 128) % 64 = d from add_mul_mod_lt 2 hd,
    show (e + 128) % 64 = e from add_mul_mod_lt 2 he]

/-- what `encode_utf8` writes reads back: in each of the four lengths the bytes carry the base-64 digits of `c` under their
marks, and the digits recompose (`digit_add_mod`, lowest first) -/
theorem ncp_utf8 (c : Nat) (hc : c < 1114112) (rest : Bytes) :
    nextCodePoint (utf8Bytes c ++ rest) = .ok (some (c, (utf8Bytes c).length)) := by
  have m64 : ∀ x, x % 64 < 64 := fun x => Nat.mod_lt x (by decide)
  unfold utf8Bytes
  by_cases h1 : c < 128
  · rw [if_pos h1, Nat.mod_eq_of_lt (by omega)]
    exact ncp_ascii c rest h1
  · rw [if_neg h1]
    by_cases h2 : c < 2048
    · rw [if_pos h2]
      refine (ncp_two _ _ rest (Nat.mod_lt _ (by decide)) (m64 _)).trans ?_
      rw [digit_add_mod c 64 32, Nat.mod_eq_of_lt h2]
      rfl
    · rw [if_neg h2]
      by_cases h3 : c < 65536
      · rw [if_pos h3]
        refine (ncp_three _ _ _ rest (Nat.mod_lt _ (by decide)) (m64 _) (m64 _)).trans ?_
        rw [digit_add_mod c 64 64, digit_add_mod c 4096 16, Nat.mod_eq_of_lt h3]
        rfl
      · rw [if_neg h3]
        refine (ncp_four _ _ _ _ rest (Nat.mod_lt _ (by decide)) (m64 _) (m64 _) (m64 _)).trans ?_
        rw [Nat.add_mul, Nat.mul_assoc, Nat.add_assoc, digit_add_mod c 64 64, digit_add_mod c 4096 64,
          digit_add_mod c 262144 8, Nat.mod_eq_of_lt (by omega)]
        rfl

theorem utf8Bytes_length_pos (c : Nat) : 0 < (utf8Bytes c).length := by
  unfold utf8Bytes; split
  · simp
  · split
    · simp
    · split <;> simp

theorem utf8Bytes_byte (c b : Nat) (hb : b ∈ utf8Bytes c) : b = c ∨ 128 ≤ b := by
  unfold utf8Bytes at hb
  by_cases h1 : c < 128
  · rw [if_pos h1, List.mem_singleton, Nat.mod_eq_of_lt (Nat.lt_trans h1 (by decide))] at hb
    exact .inl hb
  · -- beyond ASCII every byte is written as `x + m` with a mark `m ≥ 128`
    rw [if_neg h1] at hb
    right
    split at hb
    · simp only [List.mem_cons, List.not_mem_nil, or_false] at hb
      rcases hb with rfl | rfl <;> exact Nat.le_add_left_of_le (by decide)
    · split at hb
      · simp only [List.mem_cons, List.not_mem_nil, or_false] at hb
        rcases hb with rfl | rfl | rfl <;> exact Nat.le_add_left_of_le (by decide)
      · simp only [List.mem_cons, List.not_mem_nil, or_false] at hb
        rcases hb with rfl | rfl | rfl | rfl <;> exact Nat.le_add_left_of_le (by decide)

theorem utf8Of_cons (c : Nat) (cps : List Nat) : utf8Of (c :: cps) = utf8Bytes c ++ utf8Of cps := rfl

theorem utf8Of_length_ge (cps : List Nat) : cps.length ≤ (utf8Of cps).length := by
  induction cps with
  | nil => simp [utf8Of]
  | cons c rest ih =>
    rw [utf8Of_cons, List.length_append, List.length_cons]
    have := utf8Bytes_length_pos c
    omega

theorem isSafeChar_eq_false (c : Nat) : isSafeChar c = false ↔ c < 32 ∨ c = 34 ∨ c = 92 ∨ 1114112 ≤ c := by
  unfold isSafeChar
  simp only [Bool.or_eq_false_iff, Bool.and_eq_false_iff, decide_eq_false_iff_not]
  omega

theorem isSafeChar_ne {c : Nat} (hs : isSafeChar c = true) : c ≠ 34 ∧ c ≠ 92 := by
  have h : ¬ (c < 32 ∨ c = 34 ∨ c = 92 ∨ 1114112 ≤ c) := fun h => by
    rw [(isSafeChar_eq_false c).mpr h] at hs; cases hs
  omega

theorem Spelling.lt {c : Nat} {p : Bytes} (h : Spelling c p) : c < 1114112 := by
  cases h with
  | raw c hc _ => exact hc
  | u h3 h2 h1 h0 d3 d2 d1 d0 a3 a2 a1 a0 _ =>
    have := (hexVal_lt _ _ a3).2.1; have := (hexVal_lt _ _ a2).2.1
    have := (hexVal_lt _ _ a1).2.1; have := (hexVal_lt _ _ a0).2.1
    omega
  | _ => decide

theorem Spelling.length_pos {c : Nat} {p : Bytes} (h : Spelling c p) : 0 < p.length := by
  cases h with
  | raw c _ _ => exact utf8Bytes_length_pos c
  | _ => simp

theorem SpelledL.lt {cps : List Nat} {t : Bytes} (h : SpelledL cps t) : ∀ c ∈ cps, c < 1114112 := by
  induction h with
  | nil => intro c hc; cases hc
  | cons c cs p t hp _ ih =>
    intro x hx
    rcases List.mem_cons.mp hx with rfl | hx
    · exact hp.lt
    · exact ih x hx

theorem Spells.isUtf8 {s txt : Bytes} (h : Spells s txt) : IsUtf8 s := by
  obtain ⟨cps, hs, rfl⟩ := h
  exact ⟨cps, hs.lt, rfl⟩

/-- what `json_escape` emits for one code point -/
def escOf (c : Nat) : Bytes := if isSafeChar c then utf8Bytes c else (escapePiece c).getD []

def escText (cps : List Nat) : Bytes := cps.flatMap escOf

theorem escOf_spelling (c : Nat) (hc : c < 1114112) : Spelling c (escOf c) := by
  unfold escOf
  cases hs : isSafeChar c with
  | true => exact .raw c hc hs
  | false =>
    simp only [Bool.false_eq_true, if_false]
    rcases (isSafeChar_eq_false c).mp hs with h32 | rfl | rfl | h
    · have : c = 8 ∨ c = 9 ∨ c = 10 ∨ c = 12 ∨ c = 13 ∨ (c ≠ 8 ∧ c ≠ 9 ∧ c ≠ 10 ∧ c ≠ 12 ∧ c ≠ 13) := by omega
      rcases this with rfl | rfl | rfl | rfl | rfl | ⟨h8, h9, h10, h12, h13⟩
      · exact .b
      · exact .t
      · exact .n
      · exact .f
      · exact .r
      · have n34 : c ≠ 34 := Nat.ne_of_lt (Nat.lt_trans h32 (by decide))
        have n92 : c ≠ 92 := Nat.ne_of_lt (Nat.lt_trans h32 (by decide))
        have n32 : ¬ c > 32 := Nat.lt_asymm h32
        simp only [escapePiece, h8, h9, h10, h12, h13, n34, n92, n32, if_false, Option.getD_some]
        have hcc : 0 * 4096 + 0 * 256 + c / 16 % 16 * 16 + c % 16 = c := by
          rw [Nat.zero_mul, Nat.zero_add, digit_add_mod c 16 16, Nat.mod_eq_of_lt (Nat.lt_trans h32 (by decide))]
        have := Spelling.u 48 48 (hexDigitLower (c / 16 % 16)) (hexDigitLower (c % 16)) 0 0 (c / 16 % 16) (c % 16)
          (by decide) (by decide) (hexVal_hexDigitLower _ (Nat.mod_lt _ (by decide)))
          (hexVal_hexDigitLower _ (Nat.mod_lt _ (by decide)))
          (by rw [hcc]; exact fun h => Nat.lt_irrefl _ (Nat.lt_of_lt_of_le (Nat.lt_trans h32 (by decide : 32 < 55296)) h.1))
        rw [hcc] at this
        exact this
    · exact .quote
    · exact .backslash
    · exact absurd hc (Nat.not_lt.mpr h)

theorem escOf_length_pos (c : Nat) (hc : c < 1114112) : 0 < (escOf c).length :=
  (escOf_spelling c hc).length_pos

theorem escapePiece_eq (c : Nat) (hc : c < 1114112) (hs : isSafeChar c = false) : escapePiece c = some (escOf c) := by
  have h := escOf_length_pos c hc
  unfold escOf at h ⊢
  rw [hs] at h ⊢
  cases he : escapePiece c with
  | none => rw [he] at h; exact absurd h (Nat.lt_irrefl 0)
  | some p => rfl

theorem escText_spelled (cps : List Nat) (hc : ∀ c ∈ cps, c < 1114112) : SpelledL cps (escText cps) := by
  induction cps with
  | nil => exact .nil
  | cons c r ih =>
    exact .cons c r _ _ (escOf_spelling c (hc c (by simp))) (ih (fun x hx => hc x (by simp [hx])))

theorem jsonEscapeF_utf8 (cps : List Nat) (hc : ∀ c ∈ cps, c < 1114112) (fuel : Nat)
    (hf : cps.length ≤ fuel) : jsonEscapeF fuel (utf8Of cps) = .ok (escText cps) := by
  induction cps generalizing fuel with
  | nil => cases fuel <;> simp [jsonEscapeF, nextCodePoint, utf8Of, escText]
  | cons c rest ih =>
    obtain ⟨fuel, rfl⟩ := exists_eq_add_one_of_le hf
    have hcc := hc c (by simp)
    have ihr := ih (fun x hx => hc x (by simp [hx])) fuel (Nat.le_of_succ_le_succ hf)
    have he : escText (c :: rest) = escOf c ++ escText rest := rfl
    rw [utf8Of_cons, he, jsonEscapeF, ncp_utf8 c hcc]
    dsimp only
    rw [List.take_left' rfl, List.drop_left' rfl, ihr]
    cases hs : isSafeChar c with
    | true => simp [escOf, hs]
    | false => simp [escapePiece_eq c hcc hs]

theorem jsonEscape_utf8 (cps : List Nat) (hc : ∀ c ∈ cps, c < 1114112) :
    jsonEscape (utf8Of cps) = .ok (escText cps) :=
  jsonEscapeF_utf8 cps hc _ (utf8Of_length_ge cps)

theorem jsonEscape_ok (s : Bytes) (hu : IsUtf8 s) : ∃ t, jsonEscape s = .ok t ∧ Spells s t := by
  obtain ⟨cps, hc, rfl⟩ := hu
  exact ⟨_, jsonEscape_utf8 cps hc, cps, escText_spelled cps hc, rfl⟩

theorem IsUtf8_escape (s : Bytes) (hu : IsUtf8 s) : ∃ t, jsonEscape s = .ok t :=
  (jsonEscape_ok s hu).imp fun _ h => h.1

theorem jsonEscape_spells (s t : Bytes) (hu : IsUtf8 s) (he : jsonEscape s = .ok t) : Spells s t := by
  obtain ⟨t', h', hs⟩ := jsonEscape_ok s hu
  cases h'.symm.trans he
  exact hs

/-- prefix what the rest of the loop returns with what one piece consumed and wrote; an iteration of `unescF` that writes is
this by definition, so a step lemma ends in `rfl` once the branch is chosen -/
def bump (k : Nat) (w : Bytes) : Outcome (Nat × Bytes) → Outcome (Nat × Bytes)
  | .ok (c, o) => .ok (k + c, w ++ o)
  | .err => .err
  | .panic => .panic

theorem bump_bump (a b : Nat) (w v : Bytes) (x : Outcome (Nat × Bytes)) :
    bump a w (bump b v x) = bump (a + b) (w ++ v) x := by
  cases x with
  | ok r => obtain ⟨c, o⟩ := r; simp [bump]; omega
  | err => rfl
  | panic => rfl

theorem bump_zero (x : Outcome (Nat × Bytes)) : bump 0 [] x = x := by
  cases x with
  | ok r => exact congrArg Outcome.ok (Prod.ext (Nat.zero_add _) rfl)
  | err => rfl
  | panic => rfl

theorem unescF_bs {f : Nat} {tail : Bytes} {pos cap : Nat} (hcap : pos ≤ cap) :
    unescF (f + 1) (92 :: tail) .normal pos cap = bump 1 [] (unescF f tail .inesc pos cap) := by
  rw [unescF, ncp_ascii 92 tail (by omega)]
  simp [Nat.not_lt.mpr hcap]
  rfl

/-- the character after a backslash: what is written and the state afterwards -/
inductive InEsc : Nat → Bytes → EscSt → Prop
  | quote : InEsc 34 [34] .normal
  | backslash : InEsc 92 [92] .normal
  | slash : InEsc 47 [47] .normal
  | b : InEsc 98 [8] .normal
  | f : InEsc 102 [12] .normal
  | n : InEsc 110 [10] .normal
  | r : InEsc 114 [13] .normal
  | t : InEsc 116 [9] .normal
  | u : InEsc 117 [] (.uesc 0 0)

theorem unescF_inesc {f e : Nat} {w : Bytes} {st' : EscSt} (h : InEsc e w st') {tail : Bytes} {pos cap : Nat}
    (hcap : pos + w.length ≤ cap) :
    unescF (f + 1) (e :: tail) .inesc pos cap = bump 1 w (unescF f tail st' (pos + w.length) cap) := by
  have hnc : ¬ cap < pos + w.length := Nat.not_lt.mpr hcap
  have he : e < 128 := by cases h <;> decide
  rw [unescF, ncp_ascii e tail he]
  dsimp only
  cases h
  all_goals
    simp only [List.length_cons, List.length_nil, Nat.add_zero] at hnc
    simp [hnc]
    rfl

theorem unescF_uesc {f h d : Nat} (hh : hexVal h = some d) {tail : Bytes} {digit total pos cap : Nat}
    (hd : digit < 3) (hcap : pos ≤ cap) :
    unescF (f + 1) (h :: tail) (.uesc digit total) pos cap =
      bump 1 [] (unescF f tail (.uesc (digit + 1) (total + d * 16 ^ (3 - digit))) pos cap) := by
  rw [unescF, ncp_ascii h tail (hexVal_lt h d hh).1]
  simp [hh, Nat.not_lt.mpr hcap, Nat.not_le.mpr hd]
  rfl

theorem unescF_uesc_last {f h d : Nat} (hh : hexVal h = some d) {tail : Bytes} {total pos cap : Nat}
    (hns : ¬ (55296 ≤ total + d ∧ total + d ≤ 57343)) (hcap : pos + (utf8Bytes (total + d)).length ≤ cap) :
    unescF (f + 1) (h :: tail) (.uesc 3 total) pos cap =
      bump 1 (utf8Bytes (total + d)) (unescF f tail .normal (pos + (utf8Bytes (total + d)).length) cap) := by
  rw [unescF, ncp_ascii h tail (hexVal_lt h d hh).1]
  simp [hh, Nat.not_lt.mpr hcap, hns]
  rfl

/-- the six bytes `\uXXXX`.  The value is a variable `v` with `hv`: with the digit sum in its place every step carries that
term into `utf8Bytes`, and the proof costs five times as much to check -/
theorem unescF_u4 {f h3 h2 h1 h0 d3 d2 d1 d0 v : Nat} (a3 : hexVal h3 = some d3) (a2 : hexVal h2 = some d2)
    (a1 : hexVal h1 = some d1) (a0 : hexVal h0 = some d0) (hv : d3 * 4096 + d2 * 256 + d1 * 16 + d0 = v)
    (hns : ¬ (55296 ≤ v ∧ v ≤ 57343)) {tail : Bytes} {pos cap : Nat} (hcap : pos + (utf8Bytes v).length ≤ cap) :
    unescF (f + 6) (92 :: 117 :: h3 :: h2 :: h1 :: h0 :: tail) .normal pos cap =
      bump 6 (utf8Bytes v) (unescF f tail .normal (pos + (utf8Bytes v).length) cap) := by
  have hpos0 : pos ≤ cap := Nat.le_trans (Nat.le_add_right _ _) hcap
  -- the value the four steps through the digits accumulate
  have hval : 0 + d3 * 16 ^ (3 - 0) + d2 * 16 ^ (3 - 1) + d1 * 16 ^ (3 - 2) + d0 = v := by rw [Nat.zero_add]; exact hv
  rw [unescF_bs hpos0, unescF_inesc .u hpos0, List.length_nil, Nat.add_zero pos, unescF_uesc a3 (by decide) hpos0,
    unescF_uesc a2 (by decide) hpos0, unescF_uesc a1 (by decide) hpos0,
    unescF_uesc_last a0 (by rw [hval]; exact hns) (by rw [hval]; exact hcap), hval,
    bump_bump, bump_bump, bump_bump, bump_bump, bump_bump]
  rfl

/-- one piece.  Fuel as `p.length + k ≤ fuel`, what is left as `k ≤ fuel'`, not `fuel - p.length`: a raw character of several
bytes costs the loop one iteration -/
theorem unescF_spelling (c : Nat) (p : Bytes) (h : Spelling c p) (tail : Bytes) (pos cap : Nat)
    (hcap : pos + (utf8Bytes c).length ≤ cap) (fuel k : Nat) (hf : p.length + k ≤ fuel) :
    ∃ fuel', k ≤ fuel' ∧
      unescF fuel (p ++ tail) .normal pos cap =
        bump p.length (utf8Bytes c) (unescF fuel' tail .normal (pos + (utf8Bytes c).length) cap) := by
  have hpos0 : pos ≤ cap := Nat.le_trans (Nat.le_add_right _ _) hcap
  have short : ∀ (e v : Nat), InEsc e [v] .normal → utf8Bytes c = [v] → p = [92, e] →
      ∃ fuel', k ≤ fuel' ∧
        unescF fuel (p ++ tail) .normal pos cap =
          bump p.length (utf8Bytes c) (unescF fuel' tail .normal (pos + (utf8Bytes c).length) cap) := by
    intro e v hie hu hp
    subst hp
    have hf : 2 + k ≤ fuel := hf
    obtain ⟨f, rfl⟩ := Nat.exists_eq_add_of_le' (Nat.le_trans (Nat.le_add_right 2 k) hf)
    refine ⟨f, Nat.le_of_add_le_add_left (Nat.add_comm f 2 ▸ hf), ?_⟩
    rw [hu] at hcap ⊢
    rw [List.cons_append, List.cons_append, List.nil_append, unescF_bs hpos0, unescF_inesc hie hcap, bump_bump]
    rfl
  cases h with
  | raw c hc hs =>
    obtain ⟨f, rfl⟩ := Nat.exists_eq_add_of_le' (Nat.le_trans (utf8Bytes_length_pos c) (Nat.le_trans (Nat.le_add_right _ k) hf))
    refine ⟨f, by have := utf8Bytes_length_pos c; omega, ?_⟩
    have h92 : c ≠ 92 := (isSafeChar_ne hs).2
    rw [unescF, ncp_utf8 c hc]
    simp only [h92, if_false, hs, if_true, List.take_left' rfl, List.drop_left' rfl, Nat.not_lt.mpr hcap]
    rfl
  | quote => exact short 34 34 .quote (by decide) rfl
  | backslash => exact short 92 92 .backslash (by decide) rfl
  | slash => exact short 47 47 .slash (by decide) rfl
  | b => exact short 98 8 .b (by decide) rfl
  | f => exact short 102 12 .f (by decide) rfl
  | n => exact short 110 10 .n (by decide) rfl
  | r => exact short 114 13 .r (by decide) rfl
  | t => exact short 116 9 .t (by decide) rfl
  | u h3 h2 h1 h0 d3 d2 d1 d0 a3 a2 a1 a0 hns =>
    have hf : 6 + k ≤ fuel := hf
    obtain ⟨f, rfl⟩ := Nat.exists_eq_add_of_le' (Nat.le_trans (Nat.le_add_right 6 k) hf)
    exact ⟨f, Nat.le_of_add_le_add_left (Nat.add_comm f 6 ▸ hf), unescF_u4 a3 a2 a1 a0 rfl hns hcap⟩

theorem unescF_spelled (cps : List Nat) (txt : Bytes) (h : SpelledL cps txt) (tail : Bytes) (pos cap : Nat)
    (hcap : pos + (utf8Of cps).length ≤ cap) (fuel k : Nat) (hf : txt.length + k ≤ fuel) :
    ∃ fuel', k ≤ fuel' ∧
      unescF fuel (txt ++ tail) .normal pos cap =
        bump txt.length (utf8Of cps) (unescF fuel' tail .normal (pos + (utf8Of cps).length) cap) := by
  induction h generalizing fuel pos with
  | nil => exact ⟨fuel, Nat.le_trans (Nat.le_add_left _ _) hf, (bump_zero _).symm⟩
  | cons c cs p t hp _ ih =>
    have hu := utf8Of_cons c cs
    rw [hu, List.length_append, ← Nat.add_assoc] at hcap
    rw [List.length_append, Nat.add_assoc] at hf
    obtain ⟨f1, hge1, hstep⟩ := unescF_spelling c p hp (t ++ tail) pos cap (Nat.le_trans (Nat.le_add_right _ _) hcap) fuel _ hf
    obtain ⟨f2, hge2, hrest⟩ := ih (pos + (utf8Bytes c).length) hcap f1 hge1
    refine ⟨f2, hge2, ?_⟩
    rw [List.append_assoc, hstep, hrest, bump_bump, hu, List.length_append, List.length_append, Nat.add_assoc]

theorem jsonUnescape_spells (s txt rest : Bytes) (cap : Nat) (h : Spells s txt) (hcap : s.length ≤ cap) :
    jsonUnescape (txt ++ 34 :: rest) cap = .ok (txt.length, s) := by
  obtain ⟨cps, hs, rfl⟩ := h
  obtain ⟨f, hf, hstep⟩ := unescF_spelled cps txt hs (34 :: rest) 0 cap ((Nat.zero_add _).symm ▸ hcap) _ (rest.length + 1)
    (Nat.le_of_eq (List.length_append (as := txt) (bs := 34 :: rest)).symm)
  obtain ⟨f, rfl⟩ := exists_eq_add_one_of_le hf
  rw [jsonUnescape, hstep]
  -- the loop ends at the closing quote
  simp [unescF, nextCodePoint, isSafeChar, bump]

theorem burnString_body (s R : Bytes) (h : StrBody s) : burnString (s ++ 34 :: R) = .ok R := by
  induction h with
  | nil =>
    cases R with
    | nil => simp [burnString]
    | cons c r => simp [burnString]
  | raw b r h1 h2 _ ih =>
    obtain ⟨c, x, hx⟩ : ∃ c x, r ++ 34 :: R = c :: x := by
      cases r with
      | nil => exact ⟨34, R, rfl⟩
      | cons c r' => exact ⟨c, r' ++ 34 :: R, rfl⟩
    rw [List.cons_append, hx, burnString, if_neg h1, if_neg h2, ← hx]
    exact ih
  | esc c r _ ih =>
    simp only [List.cons_append]
    rw [burnString, if_neg (by decide), if_pos rfl]
    exact ih

theorem StrBody_append (a b : Bytes) (ha : StrBody a) (hb : StrBody b) : StrBody (a ++ b) := by
  induction ha with
  | nil => exact hb
  | raw x r h1 h2 _ ih => exact .raw x _ h1 h2 ih
  | esc c r _ ih => exact .esc c _ ih

theorem StrBody.of_forall (l : Bytes) (h : ∀ b ∈ l, b ≠ 34 ∧ b ≠ 92) : StrBody l := by
  induction l with
  | nil => exact .nil
  | cons b r ih => exact .raw b r (h b (by simp)).1 (h b (by simp)).2 (ih fun x hx => h x (by simp [hx]))

theorem Spelling.strBody {c : Nat} {p : Bytes} (h : Spelling c p) : StrBody p := by
  cases h with
  | raw c hc hs =>
    have h92 := isSafeChar_ne hs
    refine .of_forall _ fun b hb => ?_
    have := utf8Bytes_byte c b hb
    omega
  | u h3 h2 h1 h0 d3 d2 d1 d0 a3 a2 a1 a0 _ =>
    have b3 := hexVal_lt _ _ a3; have b2 := hexVal_lt _ _ a2
    have b1 := hexVal_lt _ _ a1; have b0 := hexVal_lt _ _ a0
    exact .esc 117 _ (.raw _ _ b3.2.2.1 b3.2.2.2 (.raw _ _ b2.2.2.1 b2.2.2.2
      (.raw _ _ b1.2.2.1 b1.2.2.2 (.raw _ _ b0.2.2.1 b0.2.2.2 .nil))))
  | _ => exact .esc _ _ .nil

theorem SpelledL.strBody {cps : List Nat} {t : Bytes} (h : SpelledL cps t) : StrBody t := by
  induction h with
  | nil => exact .nil
  | cons c cs p t hp _ ih => exact StrBody_append p t hp.strBody ih

theorem burnString_spells (s txt rest : Bytes) (h : Spells s txt) : burnString (txt ++ 34 :: rest) = .ok rest := by
  obtain ⟨cps, hs, _⟩ := h
  exact burnString_body txt rest hs.strBody

/-- `json_unescape ∘ json_escape = id`, up to the closing quote -/
theorem unescape_escape (s t rest : Bytes) (cap : Nat) (hu : IsUtf8 s) (he : jsonEscape s = .ok t)
    (hcap : s.length ≤ cap) : jsonUnescape (t ++ 34 :: rest) cap = .ok (t.length, s) :=
  jsonUnescape_spells s t rest cap (jsonEscape_spells s t hu he) hcap

theorem burnString_escape (s t rest : Bytes) (hu : IsUtf8 s) (he : jsonEscape s = .ok t) :
    burnString (t ++ 34 :: rest) = .ok rest :=
  burnString_spells s t rest (jsonEscape_spells s t hu he)

theorem Spells.unique {a b txt : Bytes} (ha : Spells a txt) (hb : Spells b txt) : a = b := by
  have h1 := jsonUnescape_spells a txt [] (a.length + b.length) ha (by omega)
  have h2 := jsonUnescape_spells b txt [] (a.length + b.length) hb (by omega)
  rw [h1] at h2
  simp only [Outcome.ok.injEq, Prod.mk.injEq] at h2
  exact h2.2

theorem jsonEscape_injective (a b t : Bytes) (ha : IsUtf8 a) (hb : IsUtf8 b) (h1 : jsonEscape a = .ok t)
    (h2 : jsonEscape b = .ok t) : a = b :=
  Spells.unique (jsonEscape_spells a t ha h1) (jsonEscape_spells b t hb h2)

end Pocket
