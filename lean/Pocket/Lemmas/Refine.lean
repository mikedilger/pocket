import Pocket.Spec.AbsStore
import Pocket.Lemmas.StoreAddr
/- On every consistent state the concrete store model, which mirrors the code (victims enumerated in the committed view and
removed from the transaction view by offset, "anything left ⇒ replaced", markers folded tag by tag), computes the abstract
store of `Spec/AbsStore.lean`: same reply, retrievable events in the same order, markers, log. -/
namespace Pocket

theorem map_event_filter (t : List SEv) (q : EventRec → Bool) :
    (t.filter fun x => q x.e).map (·.e) = (t.map (·.e)).filter q :=
  List.filter_map.symm

theorem map_event_findById (c : List SEv) (id : Bytes) :
    (findById c id).map (·.e) = (c.map (·.e)).find? (fun x => x.id == id) :=
  (List.find?_map (p := fun x : EventRec => x.id == id)).symm

/-- the verdict of `absPre` and, unless it is "replaced", its index (the model takes out the holders not newer than the event,
`absPre` all of them) -/
theorem preRemove_refines (c : List SEv) (hu : Uniq c) (e : EventRec) :
    (preRemove c e).2 = (absPre (c.map (·.e)) e).2 ∧
      ((preRemove c e).2 = false → (preRemove c e).1.map (·.e) = (absPre (c.map (·.e)) e).1) := by
  rw [preRemove_eq c hu e]
  unfold absPre
  cases addrOf e with
  | none => exact ⟨rfl, fun _ => rfl⟩
  | some k =>
    refine ⟨?_, fun hno => ?_⟩
    · simp only [List.any_map]
      apply List.any_congr rfl
      intro x
      simp only [← decide_not, Nat.not_le, gt_iff_lt, Function.comp]
    · simp only at hno ⊢
      rw [← map_event_filter c (fun h => !(atAddr k h))]
      congr 1
      apply List.filter_congr
      intro x hx
      -- a holder that stays would be a newer one
      have := List.any_eq_false.mp hno x hx
      cases hat : atAddr k x.e
      · rfl
      · rw [hat, Bool.true_and, Bool.not_eq_true, Bool.not_eq_false'] at this
        rw [this]; rfl

/-- the transaction view while a deletion request is handled: committed entries and the request itself -/
structure TxnView (c : List SEv) (nw : SEv) (t : List SEv) : Prop where
  sub : ∀ x ∈ t, x ∈ c ∨ x = nw
  fresh : ∀ v ∈ c, v.off ≠ nw.off
  k5 : nw.e.kind = 5

theorem TxnView.offs {c t : List SEv} {nw : SEv} (h : TxnView c nw t) (hu : Uniq c) :
    ∀ x ∈ t, ∀ v ∈ c, v.off = x.off → v = x := by
  intro x hx v hv hoff
  rcases h.sub x hx with hc | rfl
  · exact hu.off v hv x hc hoff
  · exact absurd hoff (h.fresh v hv)

theorem TxnView.filter {c t : List SEv} {nw : SEv} (h : TxnView c nw t) (q : SEv → Bool) : TxnView c nw (t.filter q) :=
  ⟨fun x hx => h.sub x (List.mem_filter.mp hx).1, h.fresh, h.k5⟩

theorem kind5_not_repl : isReplaceable 5 = false ∧ isParamReplaceable 5 = false := by decide

/-- the abstract outcome a concrete outcome stands for -/
def absOut : DelOut → AbsDel
  | .ok st => .ok (st.live.map (·.e)) st.delIds st.delAddrs
  | .invalid => .invalid
  | .lmdbErr => .err

theorem removeAt_refines (c : List SEv) (hu : Uniq c) (nw : SEv) (t : List SEv) (hv : TxnView c nw t)
    (kind : Nat) (author d0 : Bytes) (u : Nat) :
    (removeAt c t kind author (normD kind d0) u).map (·.e) =
      (t.map (·.e)).filter (fun x => !(atAddr (kind, author, normD kind d0) x && decide (x.createdAt ≤ u))) := by
  -- the request itself is in the view but has no address, so every victim in the view is committed
  rw [removeAt_scan, remove_victims c t _ (hv.offs hu) fun x hx hp => ?_,
    map_event_filter t fun x => !(atAddr _ x && decide (x.createdAt ≤ u))]
  rcases hv.sub x hx with hc | rfl
  · exact hc
  · rw [Bool.and_eq_true] at hp
    have := kind5_no_addr _ hv.k5
    simp [atAddr, this] at hp

theorem delTag_refines (c : List SEv) (hu : Uniq c) (nw : SEv) (req : EventRec) (tag : List Bytes) (st : DelSt)
    (hv : TxnView c nw st.live) :
    absDelTag (c.map (·.e)) req tag (st.live.map (·.e)) st.delIds st.delAddrs = absOut (delTag c req tag st) := by
  unfold delTag absDelTag
  match tag with
  | [] => rfl
  | [_] => rfl
  | name :: v :: _ =>
    by_cases hE : (name == KEY_E) = true
    · simp only [hE, if_true]
      cases hrd : readHex 32 v with
      | ok id =>
        unfold delE
        by_cases hself : (id == req.id) = true
        · simp only [hself, if_true]; rfl
        · simp only [hself, Bool.false_eq_true, if_false]
          rw [← map_event_findById c id]
          cases hfc : findById c id with
          | none => rfl
          | some target =>
            simp only [Option.map_some]
            by_cases hpk : (target.e.pubkey != req.pubkey) = true
            · simp only [hpk, if_true]; rfl
            · simp only [hpk, Bool.false_eq_true, if_false, absOut, removeId]
              rw [map_event_filter st.live (fun x => x.id != id)]
      | err => rfl
      | panic => rfl
    · simp only [hE, Bool.false_eq_true, if_false]
      by_cases hA : (name == KEY_A) = true
      · simp only [hA, if_true]
        cases hpa : parseAddr v with
        | none => rfl
        | some k =>
          obtain ⟨kind, author, d0⟩ := k
          unfold delA
          by_cases hau : (author != req.pubkey) = true
          · simp only [hau, if_true]; rfl
          · simp only [hau, Bool.false_eq_true, if_false]
            by_cases hlong : addrKeyTooLong (normD kind d0) = true
            · simp only [hlong, if_true]; rfl
            · simp only [hlong, Bool.false_eq_true, if_false, absOut]
              rw [removeAt_refines c hu nw st.live hv kind author d0 req.createdAt]
      · simp only [hA, Bool.false_eq_true, if_false]; rfl

theorem handleDeletion_refines (c : List SEv) (hu : Uniq c) (nw : SEv) (req : EventRec) (tags : TagsRec) (st : DelSt)
    (hv : TxnView c nw st.live) :
    absDeletion (c.map (·.e)) req tags (st.live.map (·.e)) st.delIds st.delAddrs =
      absOut (handleDeletion c req tags st) := by
  induction tags generalizing st with
  | nil => rfl
  | cons tag rest ih =>
    unfold handleDeletion absDeletion
    rw [delTag_refines c hu nw req tag st hv]
    cases ho : delTag c req tag st with
    | ok st' => exact ih st' ⟨fun x hx => hv.sub x ((delTag_sublist c req tag st st' ho).subset hx), hv.fresh, hv.k5⟩
    | invalid => rfl
    | lmdbErr => rfl

theorem delByAddr_eq_coveredBy (db : Db) (e : EventRec) : delByAddr db e = coveredBy db.delAddrs e := by
  unfold delByAddr coveredBy
  rw [addrMarker_eq]
  cases (addrOf e).bind (delAddrGet db.delAddrs) <;> rfl

theorem txnLive_map (s : Store) (hi : Inv s) (e : EventRec) (hno : (preRemove s.db.live e).2 = false) :
    (txnLive s e).map (·.e) =
      (if isEphemeral e.kind then (absPre (s.db.live.map (·.e)) e).1 else (absPre (s.db.live.map (·.e)) e).1 ++ [e]) := by
  have hl := (preRemove_refines s.db.live (Uniq_of_Inv s hi) e).2 hno
  unfold txnLive
  split
  · exact hl
  · rw [List.map_append, hl]; rfl

theorem isSome_findById (l : List SEv) (id : Bytes) :
    (findById l id).isSome = (l.map (·.e)).any (fun x => x.id == id) := by
  rw [List.any_map]; exact List.isSome_find?

theorem refusal_abs (s : Store) (e : EventRec) :
    refusal s.db e =
      (if (Abs.of s).live.any (fun x => x.id == e.id) then some .duplicate
       else if (Abs.of s).delIds.contains e.id then some .deleted
       else if coveredBy (Abs.of s).delAddrs e then some .deleted
       else none) := by
  unfold refusal
  rw [isSome_findById, delByAddr_eq_coveredBy]
  rfl

theorem storeEvent_refines (s : Store) (hi : Inv s) (e : EventRec) :
    (storeEvent s e).1 = (absStore (Abs.of s) e).1 ∧ Abs.of (storeEvent s e).2 = (absStore (Abs.of s) e).2 := by
  have hu := Uniq_of_Inv s hi
  -- both sides run the same tests in the same order: the refusals, the "replaced" verdict, the kind
  unfold storeEvent absStore
  rw [refusals_first, ← refusal_abs]
  cases refusal s.db e with
  | some r => exact ⟨rfl, rfl⟩
  | none =>
    have hflag : (absPre (Abs.of s).live e).2 = (preRemove s.db.live e).2 := (preRemove_refines s.db.live hu e).1.symm
    simp only [hflag]
    by_cases h4 : (preRemove s.db.live e).2 = true
    · rw [if_pos h4, if_pos h4]; exact ⟨rfl, rfl⟩
    rw [if_neg h4, if_neg h4]
    have htl : (txnLive s e).map (·.e) = _ := txnLive_map s hi e (by simpa using h4)
    by_cases h5 : e.kind = 5
    · have href := handleDeletion_refines s.db.live hu ⟨align8 s.end, e⟩ e e.tags
        ⟨txnLive s e, s.db.delIds, s.db.delAddrs⟩ ⟨mem_txnLive_cases s e, hi.live_off_ne, h5⟩
      rw [htl] at href
      rw [if_pos h5, if_pos h5]
      simp only [Abs.of] at href ⊢
      rw [href]
      cases handleDeletion s.db.live e e.tags ⟨txnLive s e, s.db.delIds, s.db.delAddrs⟩ <;>
        simp only [absOut, commitDel, appendLog, List.map_append, List.map_cons, List.map_nil, and_self]
    · rw [if_neg h5, if_neg h5]
      refine ⟨rfl, ?_⟩
      simp only [Abs.of, commitPlain, appendLog, List.map_append, List.map_cons, List.map_nil, htl]

theorem removeEvent_refines (s : Store) (id : Bytes) : Abs.of (removeEvent s id) = absRemove (Abs.of s) id := by
  simp only [Abs.of, removeEvent, absRemove, removeId]
  congr 1
  exact map_event_filter s.db.live (fun x => x.id != id)

theorem insertById_map (x : SEv) (l : List SEv) :
    (insertById x l).map (·.e) = insertByIdE x.e (l.map (·.e)) := by
  induction l with
  | nil => rfl
  | cons y ys ih =>
    simp only [insertById, List.map_cons, insertByIdE]
    split <;> simp [ih]

theorem sortById_map (l : List SEv) :
    (l.foldr insertById []).map (·.e) = (l.map (·.e)).foldr insertByIdE [] := by
  induction l with
  | nil => rfl
  | cons x l ih => simp only [List.foldr_cons, List.map_cons, insertById_map, ih]

theorem relog_map (xs : List SEv) (n : Nat) :
    (relog xs n).1.map (fun x => (x.off, x.e)) = (relogE (xs.map (·.e)) n).1 ∧ (relog xs n).2 = (relogE (xs.map (·.e)) n).2 := by
  induction xs generalizing n with
  | nil => exact ⟨rfl, rfl⟩
  | cons x xs ih =>
    obtain ⟨h1, h2⟩ := ih (align8 n + eventLen x.e)
    simp only [relog, relogE, List.map_cons, h1, h2, and_self]

theorem rebuild_refines (s : Store) : Abs.of (rebuild s) = absRebuild (Abs.of s) := by
  obtain ⟨h1, h2⟩ := relog_map (s.db.live.foldr insertById []) 8
  have h3 := relog_events (s.db.live.foldr insertById []) 8
  simp only [Abs.of, rebuild, absRebuild, h1, h2, h3, sortById_map]

end Pocket
