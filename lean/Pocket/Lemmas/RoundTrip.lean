import Pocket.Lemmas.EventUnknown
/- `Event::from_json ∘ Event::as_json = id` (C02): what `as_json` writes for a UTF-8 event is one of the texts of
`parseEvent_any_order_unknown`: the members in `as_json`'s order, no whitespace, no unknown members, canonical escapes. -/
namespace Pocket

/-- the members in the order `as_json` writes them, without whitespace -/
def canonOrder : List ESpec :=
  [.id, .pubkey, .kind, .createdAt, .tags, .content, .sig].map fun m => .known ⟨[], [], [], [], m⟩

theorem evTextU_tight (e : EventRec) (tj ec : Bytes) (m : EMem) (ms : List ESpec) (R : Bytes) :
    evTextU e tj ec (.known ⟨[], [], [], [], m⟩ :: ms) R =
      34 :: (keyOf m ++ 34 :: 58 :: (valOf e tj ec m ++ (if ms.isEmpty then 125 else 44) :: evTextU e tj ec ms R)) := by
  simp only [evTextU_cons, ESpec.w0, ESpec.w3, ESpec.body, memText, Sep, List.nil_append, List.cons_append, List.append_assoc]

theorem quoted_append (v S : Bytes) : 34 :: (v ++ [34]) ++ S = 34 :: (v ++ 34 :: S) := by
  rw [List.cons_append, List.append_assoc]; rfl

theorem eventJson_ok (e : EventRec) (hut : TagsUtf8 e.tags) (huc : IsUtf8 e.content) :
    ∃ txt tj ec, eventJson e = .ok txt ∧ TagsText e.tags tj ∧ Spells e.content ec ∧
      ∀ R, txt ++ R = 123 :: evTextU e tj ec canonOrder R := by
  obtain ⟨tj, htj, htt⟩ := tagsJson_ok e.tags hut
  obtain ⟨ec, hec, hsp⟩ := jsonEscape_ok e.content huc
  refine ⟨_, tj, ec, by rw [eventJson, htj, hec], htt, hsp, fun R => ?_⟩
  -- both sides nested to the right around the seven values, the four closing quotes moved across; the rest is appending
  -- literals, which `rfl` evaluates (`simp` moving them byte by byte costs four times as much)
  simp only [List.append_assoc, canonOrder, List.map, evTextU_tight, valOf, quoted_append]
  rfl

theorem parseEvent_eventJson (e : EventRec) (hs : EventSized e)
    (hbid : ∀ b ∈ e.id, b < 256) (hbpk : ∀ b ∈ e.pubkey, b < 256) (hbsig : ∀ b ∈ e.sig, b < 256)
    (hut : TagsUtf8 e.tags) (huc : IsUtf8 e.content) (rest buf : Bytes) (hbuf : (encodeEvent e).length ≤ buf.length) :
    ∃ txt, eventJson e = .ok txt ∧
      parseEvent (txt ++ rest) buf =
        .ok (txt.length, (encodeEvent e).length, encodeEvent e ++ buf.drop (encodeEvent e).length) := by
  obtain ⟨txt, tj, ec, ht, htt, hsp, hshape⟩ := eventJson_ok e hut huc
  have h := parseEvent_any_order_unknown e hs hbid hbpk hbsig tj ec htt hsp buf hbuf canonOrder
    (List.forall_mem_map.mpr fun _ _ => ⟨allWs_nil, allWs_nil, allWs_nil, allWs_nil⟩)
    (by decide) (by intro m; cases m <;> decide) [] allWs_nil rest
  rw [List.nil_append, ← hshape, List.length_append, Nat.add_sub_cancel] at h
  exact ⟨txt, ht, h⟩

end Pocket
