import Pocket.Lemmas.StoreStep
import Pocket.Lemmas.ListAux
import Pocket.Spec.StoreInv
/- every operation keeps `Inv` (`Spec/StoreInv.lean`) -/
namespace Pocket

theorem align8_ge (n : Nat) : n ≤ align8 n := by
  unfold align8; split
  · exact Nat.le_refl _
  · exact Nat.le_add_right _ _

theorem align8_mod (n : Nat) : align8 n % 8 = 0 := by unfold align8; split <;> omega

theorem align8_lt (n : Nat) : align8 n < n + 8 := by
  unfold align8; split
  · exact Nat.lt_add_of_pos_right (by decide)
  · exact Nat.add_lt_add_left (Nat.sub_lt (by decide) (Nat.pos_of_ne_zero ‹_›)) n

/-- `align8 a` is the first multiple of 8 from `a` on -/
theorem align8_le_of_mod (a b : Nat) (h : a ≤ b) (hb : b % 8 = 0) : align8 a ≤ b := by
  have := align8_lt a; have := align8_mod a; omega

theorem eventLen_pos (e : EventRec) : 0 < eventLen e := by unfold eventLen eventSize; omega

theorem Inv.off_lt_end {s : Store} (hi : Inv s) (x : SEv) (hx : x ∈ s.log) : x.off < s.end :=
  Nat.lt_of_lt_of_le (Nat.lt_add_of_pos_right (eventLen_pos x.e)) (hi.logBound x hx).2.2

theorem Inv.live_off_ne {s : Store} (hi : Inv s) : ∀ x ∈ s.db.live, x.off ≠ align8 s.end := fun x hx =>
  Nat.ne_of_lt (Nat.lt_of_lt_of_le (hi.off_lt_end x (hi.liveInLog x hx)) (align8_ge _))

theorem Inv_init : Inv {} := by
  constructor <;> simp

theorem appendLog_logInv (s : Store) (e : EventRec) (hi : Inv s) :
    (appendLog s e).log.Pairwise (fun a b => a.off < b.off) ∧
    (∀ x ∈ (appendLog s e).log, 8 ≤ x.off ∧ x.off % 8 = 0 ∧ x.off + eventLen x.e ≤ (appendLog s e).end) ∧
    8 ≤ (appendLog s e).end := by
  have hge : s.end ≤ align8 s.end := align8_ge s.end
  have hnew : s.end ≤ align8 s.end + eventLen e := Nat.le_trans hge (Nat.le_add_right _ _)
  refine ⟨?_, fun x hx => ?_, Nat.le_trans hi.endGe hnew⟩
  · refine List.pairwise_append.mpr ⟨hi.logSorted, List.pairwise_singleton _ _, fun a ha b hb => ?_⟩
    rw [List.mem_singleton.mp hb]
    exact Nat.lt_of_lt_of_le (hi.off_lt_end a ha) hge
  · rcases List.mem_append.mp hx with hx | hx
    · obtain ⟨h1, h2, h3⟩ := hi.logBound x hx
      exact ⟨h1, h2, Nat.le_trans h3 hnew⟩
    · rw [List.mem_singleton.mp hx]
      exact ⟨Nat.le_trans hi.endGe hge, align8_mod s.end, Nat.le_refl _⟩

theorem Inv_appended (s : Store) (e : EventRec) (hi : Inv s) : Inv (appendLog s e) := by
  obtain ⟨h1, h2, h3⟩ := appendLog_logInv s e hi
  exact ⟨fun x hx => List.mem_append_left _ (hi.liveInLog x hx), h1, h2, hi.liveIds, h3⟩

theorem Inv_end_le (s : Store) (hi : Inv s) (n : Nat) (h : s.end ≤ n) : Inv { s with «end» := n } :=
  ⟨hi.liveInLog, hi.logSorted, fun x hx => ⟨(hi.logBound x hx).1, (hi.logBound x hx).2.1,
    Nat.le_trans (hi.logBound x hx).2.2 h⟩, hi.liveIds, Nat.le_trans hi.endGe h⟩

theorem Inv_storeEvent (s : Store) (e : EventRec) (hi : Inv s) : Inv (storeEvent s e).2 := by
  have hsub := storeEvent_live_sublist s e
  obtain ⟨ha1, ha2, ha3⟩ := appendLog_logInv s e hi
  rcases storeEvent_outcomes s e with ⟨_, h⟩ | ⟨_, h⟩ | ⟨hr, _, st, h, _⟩ <;> rw [h] at hsub ⊢
  · exact hi
  · exact Inv_appended s e hi
  · refine ⟨fun x hx => ?_, ha1, ha2, ?_, ha3⟩
    · rcases List.mem_append.mp (hsub.subset hx) with h1 | h1
      · exact List.mem_append_left _ (hi.liveInLog x h1)
      · exact List.mem_append_right _ h1
    · have hf := (findById_eq_none _ _).mp ((refusal_eq_none _ _).mp hr).1
      refine List.Nodup.sublist (hsub.map _) ?_
      rw [List.map_append]
      exact (List.perm_append_singleton _ _).nodup_iff.mpr (List.nodup_cons.mpr
        ⟨fun hm => (List.mem_map.mp hm).elim fun x hx => hf x hx.1 hx.2, hi.liveIds⟩)

theorem Inv_of_live_sublist (s : Store) (live' : List SEv) (hi : Inv s) (hs : live'.Sublist s.db.live) :
    Inv { s with db := { s.db with live := live' } } :=
  ⟨fun x hx => hi.liveInLog x (hs.subset hx), hi.logSorted, hi.logBound,
   List.Pairwise.sublist (hs.map _) hi.liveIds, hi.endGe⟩

theorem Inv_removeEvent (s : Store) (id : Bytes) (hi : Inv s) : Inv (removeEvent s id) :=
  Inv_of_live_sublist s _ hi (removeId_sublist _ _)

theorem sortById_perm (l : List SEv) : (l.foldr insertById []).Perm l :=
  foldr_insert_perm _ (insert_perm insertById (fun x y => bytesLt x.e.id y.e.id) (fun _ => rfl) fun _ _ _ => rfl) l

theorem sortByIdE_perm (l : List EventRec) : (l.foldr insertByIdE []).Perm l :=
  foldr_insert_perm _ (insert_perm insertByIdE (fun x y => bytesLt x.id y.id) (fun _ => rfl) fun _ _ _ => rfl) l

theorem relog_events (xs : List SEv) (e : Nat) : (relog xs e).1.map (·.e) = xs.map (·.e) := by
  induction xs generalizing e with
  | nil => rfl
  | cons x xs ih => simp [relog, ih]

theorem relog_spec (xs : List SEv) (e : Nat) :
    (∀ y ∈ (relog xs e).1, e ≤ y.off ∧ y.off % 8 = 0 ∧ y.off + eventLen y.e ≤ (relog xs e).2) ∧
    (relog xs e).1.Pairwise (fun a b => a.off < b.off) ∧ e ≤ (relog xs e).2 := by
  induction xs generalizing e with
  | nil => exact ⟨fun _ h => (nomatch h), List.Pairwise.nil, Nat.le_refl _⟩
  | cons x xs ih =>
    -- the slot of `x` starts at `align8 e ≥ e` and the rest starts behind it
    have hnext : e ≤ align8 e + eventLen x.e := Nat.le_trans (align8_ge e) (Nat.le_add_right _ _)
    obtain ⟨i1, i2, i3⟩ := ih (align8 e + eventLen x.e)
    refine ⟨fun y hy => ?_, List.pairwise_cons.mpr ⟨fun y hy => ?_, i2⟩, Nat.le_trans hnext i3⟩
    · rcases List.mem_cons.mp hy with rfl | hy
      · exact ⟨align8_ge e, align8_mod e, i3⟩
      · obtain ⟨h1, h2, h3⟩ := i1 y hy
        exact ⟨Nat.le_trans hnext h1, h2, h3⟩
    · exact Nat.lt_of_lt_of_le (Nat.lt_add_of_pos_right (eventLen_pos x.e)) (i1 y hy).1

/-- the rebuilt map is no longer than its events, each padded to a multiple of 8 -/
theorem relog_end_le (xs : List SEv) (e : Nat) : (relog xs e).2 ≤ e + (xs.map (fun x => eventLen x.e + 7)).sum := by
  induction xs generalizing e with
  | nil => exact Nat.le_add_right _ _
  | cons x xs ih =>
    have := ih (align8 e + eventLen x.e)
    have h8 := align8_lt e
    simp only [relog, List.map_cons, List.sum_cons]
    omega

theorem rebuild_events_perm (s : Store) : ((rebuild s).db.live.map (·.e)).Perm (s.db.live.map (·.e)) := by
  unfold rebuild; dsimp only; rw [relog_events]; exact (sortById_perm s.db.live).map _

theorem Inv_rebuild (s : Store) (hi : Inv s) : Inv (rebuild s) := by
  obtain ⟨h1, h2, h3⟩ := relog_spec (s.db.live.foldr insertById []) 8
  have hp := (rebuild_events_perm s).map (·.id)
  rw [List.map_map, List.map_map] at hp
  exact ⟨fun x hx => hx, h2, h1, (List.Perm.nodup_iff hp).mpr hi.liveIds, h3⟩

theorem rebuild_event_mem (s : Store) (y : SEv) (hy : y ∈ (rebuild s).db.live) : ∃ x ∈ s.db.live, x.e = y.e :=
  List.mem_map.mp ((rebuild_events_perm s).subset (List.mem_map.mpr ⟨y, hy, rfl⟩))

theorem Inv_step (s : Store) (op : Op) (hi : Inv s) : Inv (step s op) := by
  rcases step_cases s op with ⟨e, _, h⟩ | ⟨l, hl, h⟩ | ⟨_, h⟩ <;> rw [h]
  · exact Inv_storeEvent s e hi
  · exact Inv_of_live_sublist s l hi hl
  · exact Inv_rebuild s hi

theorem Inv_run (s : Store) (ops : List Op) (hi : Inv s) : Inv (run s ops) :=
  run_induct Inv ops (fun s op _ => Inv_step s op) s hi

end Pocket
