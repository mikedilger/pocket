import Pocket.Model.EventMap
import Pocket.Lemmas.StoreInv
import Pocket.Spec.StoreInv
/- The event map never shrinks, the padding and the grow loop always find room, and every state a kill can leave reopens to a
consistent map with the same end marker (C04, C13, C15). -/
namespace Pocket

theorem EMInv.marker_le_file {m : EMap} (hi : EMInv m) : m.marker ≤ m.fileLen := by
  rw [← hi.mapFile]; exact hi.inMap

theorem emAppend_full (m : EMap) (n : Nat) (h : m.marker + n > m.mapLen) : emAppend m n = none := by
  unfold emAppend; rw [if_pos h]

theorem emPad_spec (m : EMap) : m.marker + emPad m = align8 m.marker := by
  unfold emPad align8
  split <;> rfl

theorem emGrow_inv (chunk : Nat) (hc : chunk % 8 = 0) (m : EMap) (hi : EMInv m) :
    EMInv (emGrow chunk m) ∧ (emGrow chunk m).fileLen = m.fileLen + chunk ∧ (emGrow chunk m).marker = m.marker := by
  have hlen : m.memLen + chunk = m.fileLen + chunk := by rw [hi.memFile]
  refine ⟨⟨hi.hdr, ?_, rfl, rfl, ?_⟩, hlen, rfl⟩
  · show m.marker ≤ m.memLen + chunk
    rw [hlen, ← hi.mapFile]
    exact Nat.le_trans hi.inMap (Nat.le_add_right _ _)
  · show (m.memLen + chunk) % 8 = 0
    rw [hlen, Nat.add_mod, hi.al, hc]

theorem emAppend_fit (m : EMap) (hi : EMInv m) (size : Nat) (hfit : ¬ m.marker + size > m.mapLen) :
    emAppend m size = some { m with marker := m.marker + size } ∧ EMInv { m with marker := m.marker + size } :=
  ⟨by unfold emAppend; rw [if_neg hfit],
   Nat.le_trans hi.hdr (Nat.le_add_right _ _), Nat.le_of_not_gt hfit, hi.mapFile, hi.memFile, hi.al⟩

/-- the padding is an append that fits, because the file's length is a multiple of 8 -/
theorem emPad_ok (m : EMap) (hi : EMInv m) :
    (if emPad m = 0 then some m else emAppend m (emPad m)) = some { m with marker := align8 m.marker } ∧
      EMInv { m with marker := align8 m.marker } := by
  have hfit : align8 m.marker ≤ m.mapLen := align8_le_of_mod _ _ hi.inMap (by rw [hi.mapFile]; exact hi.al)
  rw [← emPad_spec m] at hfit ⊢
  obtain ⟨ha, hi'⟩ := emAppend_fit m hi (emPad m) (Nat.not_lt.mpr hfit)
  refine ⟨?_, hi'⟩
  by_cases hp : emPad m = 0
  · rw [if_pos hp, hp]; rfl
  · rw [if_neg hp, ha]

/-- the grow loop always ends in an append: the offset is the old marker, the file only grew -/
theorem emStoreLoop_ok (k chunk : Nat) (hc : chunk % 8 = 0) (m : EMap) (hi : EMInv m) (size : Nat)
    (hf : m.marker + size ≤ m.mapLen + k * chunk) :
    ∃ m', emStoreLoop (k + 1) chunk m size = .ok (m.marker, m') ∧ EMInv m' ∧ m'.marker = m.marker + size ∧
      m.fileLen ≤ m'.fileLen := by
  induction k generalizing m with
  | zero =>
    obtain ⟨ha, hi'⟩ := emAppend_fit m hi size (Nat.not_lt.mpr (by rw [Nat.zero_mul] at hf; exact hf))
    unfold emStoreLoop
    rw [ha]
    exact ⟨_, rfl, hi', rfl, Nat.le_refl _⟩
  | succ k ih =>
    unfold emStoreLoop
    by_cases hfit : m.marker + size > m.mapLen
    · have ha := emAppend_full m size hfit
      rw [ha]
      obtain ⟨gi, gl, gm⟩ := emGrow_inv chunk hc m hi
      have hmap : (emGrow chunk m).mapLen = m.mapLen + chunk := by
        rw [gi.mapFile, gl, hi.mapFile]
      have hf' : (emGrow chunk m).marker + size ≤ (emGrow chunk m).mapLen + k * chunk := by
        -- one of the `k + 1` chunks of `hf` is the one just added
        rwa [gm, hmap, Nat.add_assoc, Nat.add_comm chunk, ← Nat.succ_mul]
      obtain ⟨m', h1, h2, h3, h4⟩ := ih (emGrow chunk m) gi hf'
      exact ⟨m', by simp only []; rw [h1, gm], h2, by rw [h3, gm], by rw [gl] at h4; exact Nat.le_trans (Nat.le_add_right _ _) h4⟩
    · obtain ⟨ha, hi'⟩ := emAppend_fit m hi size hfit
      rw [ha]
      exact ⟨_, rfl, hi', rfl, Nat.le_refl _⟩

/-- `EventStore::store_event` on a consistent map succeeds, returns the 8-aligned old end, advances the end by the event's
size and leaves the file at least as long -/
theorem emStore_ok (chunk : Nat) (hc : chunk % 8 = 0) (hpos : 0 < chunk) (m : EMap) (hi : EMInv m) (size : Nat) :
    ∃ m', emStore chunk m size = .ok (align8 m.marker, m') ∧ EMInv m' ∧ m'.marker = align8 m.marker + size ∧
      m.fileLen ≤ m'.fileLen := by
  obtain ⟨hp, hi1⟩ := emPad_ok m hi
  unfold emStore
  rw [hp]
  -- the fuel `size / chunk + 2` suffices: `size / chunk + 1` rounds of growth make room for `size` bytes
  exact emStoreLoop_ok (size / chunk + 1) chunk hc _ hi1 size
    (Nat.add_le_add hi1.inMap (Nat.le_of_lt (Nat.mul_comm _ _ ▸ Nat.lt_mul_div_succ size hpos)))

/-- `EventStore::new` on what a consistent map leaves on disk, also one full to its last byte, continues from the same end
with the real file length -/
theorem emOpen_existing (chunk fileLen marker : Nat) (h8 : 8 ≤ marker) (hle : marker ≤ fileLen) (hal : fileLen % 8 = 0) :
    ∃ m, emOpen chunk fileLen marker = .ok m ∧ EMInv m ∧ m.marker = marker ∧ m.fileLen = fileLen := by
  unfold emOpen
  have n1 : ¬ fileLen < 8 := Nat.not_lt.mpr (Nat.le_trans h8 hle)
  have n2 : ¬ marker < 8 := Nat.not_lt.mpr h8
  simp only [n1, n2, decide_false, Bool.or_false, Bool.false_and, Bool.false_eq_true, if_false]
  exact ⟨_, rfl, ⟨h8, hle, rfl, rfl, hal⟩, rfl, rfl⟩

/-- a file never initialised (absent, empty, sized but the marker never written) becomes an empty initialised map of at
least one chunk -/
theorem emOpen_fresh (chunk fileLen marker : Nat) (hc : chunk % 8 = 0) (hc8 : 8 ≤ chunk)
    (hnew : fileLen < 8 ∨ marker < 8) (hal : fileLen % 8 = 0 ∨ fileLen < chunk) :
    ∃ m, emOpen chunk fileLen marker = .ok m ∧ EMInv m ∧ m.marker = 8 ∧ fileLen ≤ m.fileLen ∧ chunk ≤ m.fileLen := by
  unfold emOpen
  have hn : (decide (fileLen < 8) || decide (marker < 8)) = true := by
    rcases hnew with h | h <;> simp [h]
  simp only [hn, Bool.true_and, if_true]
  by_cases hlt : fileLen < chunk
  · simp only [hlt, decide_true, if_true]
    rw [if_neg (Nat.not_lt.mpr hc8)]
    exact ⟨_, rfl, ⟨Nat.le_refl _, hc8, rfl, rfl, hc⟩, rfl, Nat.le_of_lt hlt, Nat.le_refl _⟩
  · simp only [hlt, decide_false, Bool.false_eq_true, if_false]
    have hge : chunk ≤ fileLen := Nat.le_of_not_gt hlt
    rw [if_neg (Nat.not_lt.mpr (Nat.le_trans hc8 hge))]
    exact ⟨_, rfl, ⟨Nat.le_refl _, Nat.le_trans hc8 hge, rfl, rfl, hal.resolve_right hlt⟩, rfl, Nat.le_refl _, hge⟩

theorem emLoopStates_spec (fuel chunk : Nat) (hc : chunk % 8 = 0) (m : EMap) (hi : EMInv m) (size : Nat) (fl mk : Nat)
    (h : (fl, mk) ∈ emLoopStates fuel chunk m size) :
    m.fileLen ≤ fl ∧ fl % 8 = 0 ∧ (mk = m.marker ∨ mk = m.marker + size) ∧ mk ≤ fl := by
  induction fuel generalizing m with
  | zero =>
    simp only [emLoopStates, List.mem_singleton, Prod.mk.injEq] at h
    obtain ⟨rfl, rfl⟩ := h
    exact ⟨Nat.le_refl _, hi.al, .inl rfl, hi.marker_le_file⟩
  | succ f ih =>
    have here : m.fileLen ≤ m.fileLen ∧ m.fileLen % 8 = 0 ∧ (m.marker = m.marker ∨ m.marker = m.marker + size) ∧
        m.marker ≤ m.fileLen := ⟨Nat.le_refl _, hi.al, .inl rfl, hi.marker_le_file⟩
    unfold emLoopStates at h
    by_cases hfit : m.marker + size > m.mapLen
    · have ha := emAppend_full m size hfit
      rw [ha] at h
      rcases List.mem_cons.mp h with h | h
      · cases h; exact here
      · obtain ⟨gi, gl, gm⟩ := emGrow_inv chunk hc m hi
        obtain ⟨h1, h2, h3, h4⟩ := ih (emGrow chunk m) gi h
        rw [gl] at h1; rw [gm] at h3
        exact ⟨Nat.le_trans (Nat.le_add_right _ _) h1, h2, h3, h4⟩
    · obtain ⟨ha, hi'⟩ := emAppend_fit m hi size hfit
      rw [ha] at h
      simp only [List.mem_cons, Prod.mk.injEq, List.not_mem_nil, or_false] at h
      rcases h with ⟨rfl, rfl⟩ | ⟨rfl, rfl⟩
      · exact here
      · exact ⟨Nat.le_refl _, hi.al, .inr rfl, hi'.marker_le_file⟩

/-- every durable state a kill inside `store_event` can leave: the file no shorter than before, the end marker the old, the
aligned or the final one, inside the file — what `emOpen_existing` asks -/
theorem emStore_crash_states (chunk : Nat) (hc : chunk % 8 = 0) (m : EMap) (hi : EMInv m) (size fl mk : Nat)
    (h : (fl, mk) ∈ emStoreStates chunk m size) :
    m.fileLen ≤ fl ∧ fl % 8 = 0 ∧ 8 ≤ mk ∧ mk ≤ fl ∧
      (mk = m.marker ∨ mk = align8 m.marker ∨ mk = align8 m.marker + size) := by
  obtain ⟨hp, hi1⟩ := emPad_ok m hi
  unfold emStoreStates at h
  rw [hp] at h
  simp only [List.mem_cons, Prod.mk.injEq] at h
  have h8 := hi.hdr
  rcases h with ⟨rfl, rfl⟩ | h
  · exact ⟨Nat.le_refl _, hi.al, h8, hi.marker_le_file, Or.inl rfl⟩
  · obtain ⟨h1, h2, h3, h4⟩ := emLoopStates_spec _ chunk hc _ hi1 size fl mk h
    refine ⟨h1, h2, ?_, h4, .inr h3⟩
    rcases h3 with rfl | rfl
    · exact hi1.hdr
    · exact Nat.le_trans hi1.hdr (Nat.le_add_right _ _)

end Pocket
