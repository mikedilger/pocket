import Pocket.Lemmas.StoreDel
import Pocket.Spec.StoreInv
/- at most one retrievable event per replaceable address (`AddrUniq`), kept by every operation (C09) -/
namespace Pocket

theorem preRemove_no_holder (c : List SEv) (hu : Uniq c) (e : EventRec) (h : (preRemove c e).2 = false)
    (hne : addrOf e ≠ none) (x : SEv) (hx : x ∈ (preRemove c e).1) : addrOf x.e ≠ addrOf e := fun ha => by
  -- a holder that pre-removal left is newer than the event, which then would have been "replaced"
  obtain ⟨hxc, hnew⟩ := (mem_preRemove c hu e x).mp hx
  have hlt : e.createdAt < x.e.createdAt := Nat.lt_of_not_le fun hle => hnew ⟨ha, hne, hle⟩
  rw [(preRemove_replaced_iff c hu e).mpr ⟨x, hxc, ha, hne, hlt⟩] at h
  cases h

theorem AddrUniq_subset (l l' : List SEv) (h : AddrUniq l) (hs : ∀ x ∈ l', x ∈ l) : AddrUniq l' :=
  fun x hx y hy => h x (hs x hx) y (hs y hy)

theorem AddrUniq_txnLive (s : Store) (hi : Inv s) (e : EventRec) (hu : AddrUniq s.db.live)
    (hrep : (preRemove s.db.live e).2 = false) : AddrUniq (txnLive s e) := by
  have hnew := preRemove_no_holder _ (Uniq_of_Inv s hi) e hrep
  intro x hx y hy hxy hne
  rcases (mem_txnLive s e x).mp hx with hx | ⟨_, rfl⟩ <;> rcases (mem_txnLive s e y).mp hy with hy | ⟨_, rfl⟩
  · exact hu x ((preRemove_sublist _ e).subset hx) y ((preRemove_sublist _ e).subset hy) hxy hne
  · exact absurd hxy (hnew (hxy ▸ hne) x hx)
  · exact absurd hxy.symm (hnew hne y hy)
  · rfl

theorem AddrUniq_storeEvent (s : Store) (hi : Inv s) (e : EventRec) (hu : AddrUniq s.db.live) :
    AddrUniq (storeEvent s e).2.db.live :=
  storeEvent_tables s e (AddrUniq ·.live) hu (fun _ hp => AddrUniq_txnLive s hi e hu hp) fun _ tag a b ha h1 =>
    AddrUniq_subset _ _ ha fun _ hx => (delTag_sublist _ _ tag a b h1).subset hx

theorem AddrUniq_step (s : Store) (op : Op) (hu : AddrUniq s.db.live) (hi : Inv s) :
    AddrUniq (step s op).db.live := by
  rcases step_cases s op with ⟨e, _, h⟩ | ⟨l, hl, h⟩ | ⟨_, h⟩ <;> rw [h]
  · exact AddrUniq_storeEvent s hi e hu
  · exact AddrUniq_subset _ _ hu fun x hx => hl.subset hx
  · -- the rebuilt index holds the same events at new offsets, and an id still names one entry
    intro x hx y hy hxy hne
    obtain ⟨x', hx', hxe⟩ := rebuild_event_mem s x hx
    obtain ⟨y', hy', hye⟩ := rebuild_event_mem s y hy
    have := hu x' hx' y' hy' (by rw [hxe, hye]; exact hxy) (by rw [hxe]; exact hne)
    exact nodup_ids_inj _ (Inv_rebuild s hi).liveIds x hx y hy (by rw [← hxe, ← hye, this])

theorem AddrUniq_run (s : Store) (hi : Inv s) (hu : AddrUniq s.db.live) (ops : List Op) : AddrUniq (run s ops).db.live :=
  (run_induct (fun s => AddrUniq s.db.live ∧ Inv s) ops
    (fun s op _ h => ⟨AddrUniq_step s op h.1 h.2, Inv_step s op h.2⟩) s ⟨hu, hi⟩).1

end Pocket
