import Pocket.Lemmas.FilterPieces
import Pocket.Lemmas.Burn
import Pocket.Lemmas.Layout
import Pocket.Lemmas.ParseFilterWF
import Pocket.Spec.FilterText
/- The two passes of `parse_json_filter` on a member list in any order (C07; texts and what they denote: `Spec/FilterText.lean`).
The first pass is followed member by member, keeping the parser state related to the members read so far (`FRel`: the positions
it saved are those of their values); the second pass copies from any state so related. -/
namespace Pocket

/-- the state after a member (`X` = the text that follows it) -/
def fApply (st : FlSt) (m : FMem) (w1 w2 X : Bytes) : FlSt :=
  match m with
  | .ids l => { st with startIds := some (idsJson l true ++ 93 :: X) }
  | .authors l => { st with startAuthors := some (idsJson l true ++ 93 :: X) }
  | .kinds l => { st with startKinds := some (kindsJson l true ++ 93 :: X) }
  | .since n => { st with since := some n }
  | .until n => { st with «until» := some n }
  | .limit n => { st with limit := some (satLimit n) }
  | .tag l _ vj => { st with tagStarts := st.tagStarts ++ [(l, 34 :: (w1 ++ 58 :: (w2 ++ 91 :: (vj ++ 93 :: X))))],
                             letters := l :: st.letters }
  | .unknown _ _ => st

/-- `flMember`'s tests for a repeated member.  An `abbrev`, so that in `if st.seen m …` the `Decidable` instance unfolds with the
condition -/
abbrev FlSt.seen (st : FlSt) : FMem → Bool
  | .ids _ => st.startIds.isSome
  | .authors _ => st.startAuthors.isSome
  | .kinds _ => st.startKinds.isSome
  | .since _ => st.since.isSome
  | .until _ => st.until.isSome
  | .limit _ => st.limit.isSome
  | .tag l _ _ => decide (st.tagStarts.length ≥ 52) || st.letters.contains l
  | .unknown _ _ => false

theorem unknown_not_tag (k rest : Bytes) (hk : StrBody k) (hnt : ∀ l, isLetter l = true → k ≠ [35, l]) :
    ∀ h l qq after, k ++ 34 :: rest = h :: l :: qq :: after → ¬ (h = 35 ∧ isLetter l = true ∧ qq = 34) := by
  intro h l qq after heq ⟨h1, hl, h2⟩
  subst h1 h2
  -- by the length of the key: shorter than `#l` puts the closing quote where `#` or the letter should be, `#l` itself
  -- is excluded, and in a longer key the third byte is part of a string body: never a bare quote, and after a
  -- backslash the second byte would be no letter
  match k, hk with
  | [], _ => simp at heq
  | [a], _ =>
    simp only [List.cons_append, List.nil_append, List.cons.injEq] at heq
    obtain ⟨_, rfl, _⟩ := heq
    simp [isLetter] at hl
  | [a, b], _ =>
    simp only [List.cons_append, List.nil_append, List.cons.injEq] at heq
    obtain ⟨rfl, rfl, _⟩ := heq
    exact hnt b hl rfl
  | a :: b :: c :: k', hk =>
    simp only [List.cons_append, List.cons.injEq] at heq
    obtain ⟨rfl, rfl, rfl, _⟩ := heq
    cases hk with
    | raw _ _ _ _ h2 =>
      cases h2 with
      | raw _ _ _ _ h3 =>
        cases h3 with
        | raw _ _ h34 _ _ => exact h34 rfl
      | esc _ _ _ => simp [isLetter] at hl

theorem flMember_unknown_key (st : FlSt) (k rest : Bytes) (hk : StrBody k) (hnk : k ∉ knownFKeys)
    (hnt : ∀ l, isLetter l = true → k ≠ [35, l]) :
    flMember st (34 :: (k ++ 34 :: rest)) =
      match burnKeyValue (34 :: (k ++ 34 :: rest)) 0 with
      | .ok r' => .ok (st, r')
      | .err => .err
      | .panic => .panic := by
  have hs : ∀ key ∈ knownFKeys, startsWith (key ++ [34]) (k ++ 34 :: rest) = false := fun key hkey =>
    startsWith_other_key key k rest (by revert key; decide) hk fun e => hnk (e ▸ hkey)
  have hnt' := unknown_not_tag k rest hk hnt
  generalize k ++ 34 :: rest = field at hs hnt' ⊢
  have h1 : startsWith kIds field = false := hs [105, 100, 115] (by decide)
  have h2 : startsWith kAuthors field = false := hs [97, 117, 116, 104, 111, 114, 115] (by decide)
  have h3 : startsWith kKinds field = false := hs [107, 105, 110, 100, 115] (by decide)
  have h4 : startsWith kSince field = false := hs [115, 105, 110, 99, 101] (by decide)
  have h5 : startsWith kUntil field = false := hs [117, 110, 116, 105, 108] (by decide)
  have h6 : startsWith kLimit field = false := hs [108, 105, 109, 105, 116] (by decide)
  unfold flMember
  simp only [verifyChar, if_true, h1, h2, h3, h4, h5, h6, Bool.false_eq_true, if_false]
  split
  · rename_i h l qq after
    rw [if_neg (hnt' h l qq after rfl)]
    cases burnKeyValue (34 :: h :: l :: qq :: after) 0 <;> rfl
  · rfl

section
attribute [local simp] fmemText fKey fVal fApply FlSt.seen flMember verifyChar startsWith kIds kAuthors kKinds kSince kUntil kLimit

theorem flMember_mem (st : FlSt) (m : FMem) (hok : FMemOk m) (w1 w2 : Bytes)
    (hw1 : AllWs w1) (hw2 : AllWs w2) (X : Bytes) (hX : HeadNotNum X) :
    flMember st (fmemText m w1 w2 ++ X) = if st.seen m then .err else .ok (fApply st m w1 w2 X, X) := by
  -- `simp` evaluates the key tests on the literal key, leaving the test for a repeated member; then colon and value (the facts listed)
  have hcol := fun Y => eatColon_ws w1 w2 91 Y hw1 hw2 (by decide)
  cases m with
  | ids l | authors l => simp [hcol, flArrayField_text _ (idsJson_no93 l true) X]
  | kinds l => simp [hcol, flArrayField_text _ (kindsJson_no93 l true) X]
  | since n | «until» n | limit n =>
    simp [satLimit, eatColon_ws_dec w1 w2 n X hw1 hw2, readU64_decOf n X hok hX.noLeadingDigit]
  | tag l vs vj =>
    obtain ⟨hl, hu, hv, hn⟩ := hok
    have hb := burnArray_values vs hu true vj X hv (burnFuel (vj ++ 93 :: X)) (by unfold burnFuel; simp; omega)
    simp [hl, hcol, hb, ite_ite_same]
  | unknown k v =>
    obtain ⟨hk, hnk, hnt, d, hd, hv⟩ := hok
    have hshape : fmemText (.unknown k v) w1 w2 ++ X = 34 :: (k ++ 34 :: (w1 ++ 58 :: (w2 ++ (v ++ X)))) := by simp
    rw [hshape, flMember_unknown_key st k _ hk hnk hnt,
      burnKeyValue_json d k w1 w2 v X hk hw1 hw2 hv hd hX]
    rfl

theorem flMember_letter_seen (st : FlSt) (l : Nat) (after : Bytes) (hl : isLetter l = true) (hseen : l ∈ st.letters) :
    flMember st (34 :: 35 :: l :: 34 :: after) = .err := by
  simp [hl, hseen]

end

/-- the saved positions are those of the tag members read so far, in order -/
def TagStarts : List (Nat × Bytes) → List (Nat × List Bytes) → Prop
  | [], [] => True
  | s :: ss, t :: ts =>
    (∃ w1 w2 vj X, AllWs w1 ∧ AllWs w2 ∧ s = (t.1, 34 :: (w1 ++ 58 :: (w2 ++ 91 :: (vj ++ 93 :: X)))) ∧
      ftagValuesJson t.2 true = .ok vj) ∧ TagStarts ss ts
  | _, _ => False

theorem TagStarts_snoc (ss : List (Nat × Bytes)) (ts : List (Nat × List Bytes)) (h : TagStarts ss ts)
    (s : Nat × Bytes) (t : Nat × List Bytes)
    (hst : ∃ w1 w2 vj X, AllWs w1 ∧ AllWs w2 ∧ s = (t.1, 34 :: (w1 ++ 58 :: (w2 ++ 91 :: (vj ++ 93 :: X)))) ∧
      ftagValuesJson t.2 true = .ok vj) : TagStarts (ss ++ [s]) (ts ++ [t]) := by
  induction ss generalizing ts with
  | nil =>
    cases ts with
    | nil => exact ⟨hst, trivial⟩
    | cons _ _ => exact h.elim
  | cons a ss ih =>
    cases ts with
    | nil => exact h.elim
    | cons b ts => exact ⟨h.1, ih ts h.2⟩

theorem TagStarts_length (ss : List (Nat × Bytes)) (ts : List (Nat × List Bytes)) (h : TagStarts ss ts) :
    ss.length = ts.length := by
  induction ss generalizing ts with
  | nil =>
    cases ts with
    | nil => rfl
    | cons _ _ => exact h.elim
  | cons a ss ih =>
    cases ts with
    | nil => exact h.elim
    | cons b ts => simp [ih ts h.2]

/-- the parser state records exactly the members read so far -/
structure FRel (A : FAbs) (st : FlSt) : Prop where
  ids0 : A.ids = none → st.startIds = none
  ids1 : ∀ l, A.ids = some l → ∃ X, st.startIds = some (idsJson l true ++ 93 :: X)
  au0 : A.authors = none → st.startAuthors = none
  au1 : ∀ l, A.authors = some l → ∃ X, st.startAuthors = some (idsJson l true ++ 93 :: X)
  ki0 : A.kinds = none → st.startKinds = none
  ki1 : ∀ l, A.kinds = some l → ∃ X, st.startKinds = some (kindsJson l true ++ 93 :: X)
  since : st.since = A.since
  «until» : st.until = A.until
  limit : st.limit = A.limit.map satLimit
  tags : TagStarts st.tagStarts A.tags
  letters : ∀ l, l ∈ st.letters ↔ l ∈ A.tags.map Prod.fst
  nodup : (A.tags.map Prod.fst).Nodup
  isl : ∀ l ∈ A.tags.map Prod.fst, isLetter l = true

/-- from the two halves in which `FRel` speaks of a saved position: there is one iff the member was read -/
theorem saved_isSome {α : Type} {o : Option α} {s : Option Bytes} {txt : α → Bytes} (h0 : o = none → s = none)
    (h1 : ∀ l, o = some l → ∃ X, s = some (txt l ++ 93 :: X)) : s.isSome = o.isSome := by
  cases o with
  | none => rw [h0 rfl]; rfl
  | some l => obtain ⟨X, hX⟩ := h1 l rfl; rw [hX]; rfl

theorem FRel_init : FRel {} {} := by
  constructor <;> simp [TagStarts]

def allLetters : List Nat := (List.range 26).map (· + 65) ++ (List.range 26).map (· + 97)

theorem isLetter_mem (l : Nat) (h : isLetter l = true) : l ∈ allLetters := by
  unfold isLetter at h
  simp only [Bool.or_eq_true, Bool.and_eq_true, decide_eq_true_eq] at h
  unfold allLetters
  simp only [List.mem_append, List.mem_map, List.mem_range]
  rcases h with h | h
  · exact Or.inl ⟨l - 65, by omega, Nat.sub_add_cancel h.1⟩
  · exact Or.inr ⟨l - 97, by omega, Nat.sub_add_cancel h.1⟩

/-- pigeonhole for the 52 slots of `start_tags` in `parse_json_filter` -/
theorem letters_le_52 (ls : List Nat) (hnd : ls.Nodup) (hl : ∀ l ∈ ls, isLetter l = true) : ls.length ≤ 52 := by
  have := hnd.length_le_of_subset (l₂ := allLetters) fun l h => isLetter_mem l (hl l h)
  simpa [allLetters] using this

/-- the parser's test for a repeated member is `FAbs.fresh`; for a tag member because only 52 letters exist -/
theorem FRel_seen (A : FAbs) (st : FlSt) (h : FRel A st) (m : FMem) (hok : FMemOk m) : st.seen m = false ↔ A.fresh m := by
  cases m with
  | ids l => simp [FAbs.fresh, saved_isSome h.ids0 h.ids1]
  | authors l => simp [FAbs.fresh, saved_isSome h.au0 h.au1]
  | kinds l => simp [FAbs.fresh, saved_isSome h.ki0 h.ki1]
  | since n => simp [FAbs.fresh, h.since]
  | «until» n => simp [FAbs.fresh, h.until]
  | limit n => simp [FAbs.fresh, h.limit]
  | tag l vs vj =>
    simp only [FAbs.fresh, Bool.or_eq_false_iff, decide_eq_false_iff_not, List.contains_eq_mem, ← h.letters l]
    refine ⟨fun hs => hs.2, fun hf => ⟨?_, hf⟩⟩
    have hnd : (l :: A.tags.map Prod.fst).Nodup := List.nodup_cons.mpr ⟨fun hm => hf ((h.letters l).mpr hm), h.nodup⟩
    have := letters_le_52 (l :: A.tags.map Prod.fst) hnd (by
      intro x hx
      rcases List.mem_cons.mp hx with rfl | hx
      · exact hok.1
      · exact h.isl x hx)
    rw [TagStarts_length _ _ h.tags]
    simp at this
    omega
  | unknown k v => exact ⟨fun _ => trivial, fun _ => rfl⟩

theorem FRel_step (A : FAbs) (st : FlSt) (h : FRel A st) (m : FMem) (hf : A.fresh m) (hok : FMemOk m)
    (w1 w2 X : Bytes) (hw1 : AllWs w1) (hw2 : AllWs w2) : FRel (A.apply m) (fApply st m w1 w2 X) := by
  cases m with
  | ids l => exact { h with ids0 := nofun, ids1 := fun _ e => by cases e; exact ⟨X, rfl⟩ }
  | authors l => exact { h with au0 := nofun, au1 := fun _ e => by cases e; exact ⟨X, rfl⟩ }
  | kinds l => exact { h with ki0 := nofun, ki1 := fun _ e => by cases e; exact ⟨X, rfl⟩ }
  | since n => exact { h with since := rfl }
  | «until» n => exact { h with «until» := rfl }
  | limit n => exact { h with limit := rfl }
  | tag l vs vj =>
    -- the new letter goes to the front of `st.letters` and to the end of `A.tags`
    have hmap : (A.apply (.tag l vs vj)).tags.map Prod.fst = A.tags.map Prod.fst ++ [l] := by simp [FAbs.apply]
    refine { h with tags := ?_, letters := fun x => ?_, nodup := ?_, isl := fun x hx => ?_ }
    · exact TagStarts_snoc _ _ h.tags _ (l, vs) ⟨w1, w2, vj, X, hw1, hw2, rfl, hok.2.2.1⟩
    · rw [hmap, List.mem_append, List.mem_singleton, ← h.letters x]
      exact List.mem_cons.trans or_comm
    · rw [hmap, List.nodup_append]
      refine ⟨h.nodup, List.pairwise_singleton _ l, fun a ha b hb => ?_⟩
      rw [List.mem_singleton.mp hb]
      exact fun e => hf (e ▸ ha)
    · rw [hmap, List.mem_append, List.mem_singleton] at hx
      exact hx.elim (h.isl x) fun e => e ▸ hok.1
  | unknown k v => exact h

/-- what follows a member is a separator and then the next key's quote or the closing brace -/
theorem headNotNum_flText (xs : List FSpec) (hws : ∀ x ∈ xs, x.WsOk) (wEnd rest : Bytes) (hwe : SepWs wEnd) :
    HeadNotNum (flText xs (wEnd ++ 125 :: rest)) := by
  cases xs with
  | nil => exact headNotNum_sepws wEnd hwe 125 rest (by decide)
  | cons x xs =>
    simp only [flText, fmemText, List.cons_append]
    exact headNotNum_sepws x.w0 (hws x (by simp)).1 34 _ (by decide)

theorem flLoop_step (f : Nat) (st : FlSt) (x : FSpec) (hx : x.WsOk) (hok : FMemOk x.m) (xs : List FSpec)
    (hws : ∀ y ∈ xs, y.WsOk) (wEnd rest : Bytes) (hwe : SepWs wEnd) :
    flLoop (f + 1) st (flText (x :: xs) (wEnd ++ 125 :: rest)) =
      if st.seen x.m then .err
      else flLoop f (fApply st x.m x.w1 x.w2 (flText xs (wEnd ++ 125 :: rest))) (flText xs (wEnd ++ 125 :: rest)) := by
  have hm := flMember_mem st x.m hok x.w1 x.w2 hx.2.1 hx.2.2 _ (headNotNum_flText xs hws wEnd rest hwe)
  rw [fmemText, List.cons_append] at hm
  rw [flText, fmemText, List.cons_append, flLoop, eatWsC_sepws x.w0 34 _ hx.1 (by decide) (by decide)]
  simp only [show (34 : Nat) ≠ 125 from by decide, if_false, hm]
  cases st.seen x.m <;> rfl

theorem flLoop_mems (ms : List FSpec) (hws : ∀ x ∈ ms, x.WsOk) (A : FAbs) (st : FlSt) (hrel : FRel A st)
    (hacc : A.accepts (ms.map (·.m))) (wEnd rest : Bytes) (hwe : SepWs wEnd) (fuel : Nat)
    (hf : ms.length + 1 ≤ fuel) :
    ∃ st', flLoop fuel st (flText ms (wEnd ++ 125 :: rest)) = .ok (st', rest) ∧
      FRel (A.run (ms.map (·.m))) st' := by
  induction ms generalizing A st fuel with
  | nil =>
    obtain ⟨f, rfl⟩ := exists_eq_add_one_of_le hf
    refine ⟨st, ?_, hrel⟩
    simp only [flText, flLoop]
    rw [eatWsC_sepws wEnd 125 rest hwe (by decide) (by decide)]
    simp
  | cons x xs ih =>
    obtain ⟨f, rfl⟩ := exists_eq_add_one_of_le hf
    obtain ⟨hfr, hok, hacc'⟩ := hacc
    have hx := hws x (by simp)
    have hws' : ∀ y ∈ xs, y.WsOk := fun y hy => hws y (by simp [hy])
    obtain ⟨st', hl, hr⟩ := ih hws' (A.apply x.m) _ (FRel_step A st hrel x.m hfr hok x.w1 x.w2 _ hx.2.1 hx.2.2) hacc' f
      (Nat.le_of_succ_le_succ hf)
    refine ⟨st', ?_, hr⟩
    rw [flLoop_step f st x hx hok xs hws' wEnd rest hwe, if_neg (ne_true_of_eq_false ((FRel_seen A st hrel x.m hok).mpr hfr))]
    exact hl

theorem flLoop_reject (ms : List FSpec) (hws : ∀ x ∈ ms, x.WsOk) (A : FAbs) (st : FlSt) (hrel : FRel A st)
    (hok : ∀ x ∈ ms, FMemOk x.m) (hrej : ¬ A.accepts (ms.map (·.m))) (wEnd rest : Bytes) (hwe : SepWs wEnd)
    (fuel : Nat) : flLoop fuel st (flText ms (wEnd ++ 125 :: rest)) = .err := by
  induction ms generalizing A st fuel with
  | nil => exact absurd trivial hrej
  | cons x xs ih =>
    cases fuel with
    | zero => rfl
    | succ f =>
      have hx := hws x (by simp)
      have hokx := hok x (by simp)
      have hws' : ∀ y ∈ xs, y.WsOk := fun y hy => hws y (by simp [hy])
      rw [flLoop_step f st x hx hokx xs hws' wEnd rest hwe]
      by_cases hfr : A.fresh x.m
      · rw [if_neg (ne_true_of_eq_false ((FRel_seen A st hrel x.m hokx).mpr hfr))]
        exact ih hws' (A.apply x.m) _ (FRel_step A st hrel x.m hfr hokx x.w1 x.w2 _ hx.2.1 hx.2.2)
          (fun y hy => hok y (by simp [hy])) (fun hacc => hrej ⟨hfr, hokx, hacc⟩) f
      · rw [if_pos (eq_true_of_ne_false fun hs => hfr ((FRel_seen A st hrel x.m hokx).mp hs))]

/-- the lambda of `FAbs.toFilter`, named: the filter's tag for a constraint -/
def tagOf (t : Nat × List Bytes) : List Bytes := [t.1] :: t.2

/-- the values read so far are admitted (`FMemOk`), as the copy loops of the second pass need -/
structure FAbsOk (A : FAbs) : Prop where
  ids : ∀ l, A.ids = some l → ∀ x ∈ l, x.length = 32 ∧ ∀ b ∈ x, b < 256
  authors : ∀ l, A.authors = some l → ∀ x ∈ l, x.length = 32 ∧ ∀ b ∈ x, b < 256
  kinds : ∀ l, A.kinds = some l → ∀ k ∈ l, k < 65536
  tags : ∀ t ∈ A.tags, (∀ v ∈ t.2, IsUtf8 v) ∧ t.2.length + 1 ≤ 65535

theorem FAbsOk_run (ms : List FMem) (A : FAbs) (h : FAbsOk A) (hacc : A.accepts ms) : FAbsOk (A.run ms) := by
  induction ms generalizing A with
  | nil => simpa [FAbs.run] using h
  | cons m ms ih =>
    obtain ⟨_, hok, hacc'⟩ := hacc
    have hstep : FAbsOk (A.apply m) := by
      cases m with
      | ids l => exact { h with ids := fun _ e => by cases e; exact hok }
      | authors l => exact { h with authors := fun _ e => by cases e; exact hok }
      | kinds l => exact { h with kinds := fun _ e => by cases e; exact hok }
      | tag l vs vj =>
        refine { h with tags := fun t ht => ?_ }
        rcases List.mem_append.mp ht with ht | ht
        · exact h.tags t ht
        · rw [List.mem_singleton.mp ht]; exact ⟨hok.2.1, hok.2.2.2⟩
      | _ => exact { h with }
    simpa [FAbs.run] using ih (A.apply m) hstep hacc'

theorem copyTagField_ws (l : Nat) (vs : List Bytes) (hu : ∀ v ∈ vs, IsUtf8 v) (w1 w2 vj R : Bytes)
    (hw1 : AllWs w1) (hw2 : AllWs w2)
    (h : ftagValuesJson vs true = .ok vj) (endPos cap : Nat)
    (hcap : endPos + tagSize ([l] :: vs) ≤ cap) (hn : vs.length + 1 ≤ 65535) :
    copyTagField (l, 34 :: (w1 ++ 58 :: (w2 ++ 91 :: (vj ++ 93 :: R)))) endPos cap = .ok ([l] :: vs) := by
  simp only [tagSize, strsSize, List.length_cons, List.length_nil] at hcap
  have hlen := ftagValuesJson_length vs true vj h
  have hv := copyTagValues_values vs hu true vj R h (endPos + 5) cap 1 (by omega) (by omega)
    ((vj ++ 93 :: R).length + 1) (by simp; omega)
  unfold copyTagField
  simp only []
  rw [if_neg (by omega), if_neg (by omega)]
  simp only [verifyChar, if_true]
  rw [eatColon_ws w1 w2 91 _ hw1 hw2 (by decide)]
  simp only [if_true, hv]

theorem copyTagFields_saved (starts : List (Nat × Bytes)) (ts : List (Nat × List Bytes)) (hs : TagStarts starts ts)
    (hok : ∀ t ∈ ts, (∀ v ∈ t.2, IsUtf8 v) ∧ t.2.length + 1 ≤ 65535) (w wts endPos cap : Nat)
    (hcap : endPos + tagsBodySize (ts.map tagOf) ≤ cap) (hwc : wts + 4 + 2 * (w + ts.length) ≤ cap) :
    ∃ offs, copyTagFields starts w wts endPos cap = .ok (offs, ts.map tagOf) := by
  induction ts generalizing starts w endPos with
  | nil =>
    cases starts with
    | nil => exact ⟨[], rfl⟩
    | cons s ss => exact hs.elim
  | cons t ts ih =>
    cases starts with
    | nil => exact hs.elim
    | cons s ss =>
      obtain ⟨⟨w1, w2, vj, R, hw1, hw2, rfl, hv⟩, hss⟩ := hs
      obtain ⟨hu, hn⟩ := hok t (by simp)
      simp only [List.map_cons, tagsBodySize, List.length_cons] at hcap hwc
      obtain ⟨offs, hrec⟩ := ih ss hss (fun t' ht' => hok t' (by simp [ht'])) (w + 1) (endPos + tagSize (tagOf t))
        (by omega) (by omega)
      unfold copyTagFields
      rw [if_neg (by omega), copyTagField_ws t.1 t.2 hu w1 w2 vj R hw1 hw2 hv endPos cap (by unfold tagOf at hcap; omega) hn]
      simp only [tagOf] at hrec ⊢
      simp only [hrec]
      exact ⟨_, rfl⟩

theorem copyOpt32_saved (o : Option (List Bytes)) (s : Option Bytes) (h0 : o = none → s = none)
    (h1 : ∀ l, o = some l → ∃ X, s = some (idsJson l true ++ 93 :: X))
    (hok : ∀ l, o = some l → ∀ x ∈ l, x.length = 32 ∧ ∀ b ∈ x, b < 256) (endPos cap : Nat)
    (hcap : endPos + 32 * (o.getD []).length ≤ cap) (hn : (o.getD []).length ≤ 65535) :
    copyOpt32 s endPos cap = .ok (o.getD []) := by
  cases o with
  | none => rw [h0 rfl]; rfl
  | some l =>
    obtain ⟨X, rfl⟩ := h1 l rfl
    have hl := idsJson_length l true
    simp only [Option.getD_some] at hcap hn ⊢
    exact copyHex32_idsJson l (hok l rfl) true X endPos cap 0 hcap (by omega) _
      (by simp only [List.length_append, List.length_cons]; omega)

theorem copyOptKinds_saved (o : Option (List Nat)) (s : Option Bytes) (h0 : o = none → s = none)
    (h1 : ∀ l, o = some l → ∃ X, s = some (kindsJson l true ++ 93 :: X))
    (hok : ∀ l, o = some l → ∀ k ∈ l, k < 65536) (endPos cap : Nat)
    (hcap : endPos + 2 * (o.getD []).length ≤ cap) (hn : (o.getD []).length ≤ 65535) :
    copyOptKinds s endPos cap = .ok (o.getD []) := by
  cases o with
  | none => rw [h0 rfl]; rfl
  | some l =>
    obtain ⟨X, rfl⟩ := h1 l rfl
    have hl := kindsJson_length l true
    simp only [Option.getD_some] at hcap hn ⊢
    exact copyKinds_kindsJson l (hok l rfl) true X endPos cap 0 hcap (by omega) _
      (by simp only [List.length_append, List.length_cons]; omega)

theorem flText_length (ms : List FSpec) (R : Bytes) : ms.length + R.length ≤ (flText ms R).length := by
  induction ms with
  | nil => simp [flText]
  | cons x xs ih => simp only [flText, fmemText, List.length_append, List.length_cons]; omega

theorem flText_append (ms : List FSpec) (R rest : Bytes) : flText ms R ++ rest = flText ms (R ++ rest) := by
  induction ms with
  | nil => rfl
  | cons x xs ih => simp [flText, ih]

/-- the second pass: from a state that records the members of `B` (`FRel`), into a buffer that holds `B`'s filter, the copy
loops write `from_parts` of that filter -/
theorem parseFilter_second_pass (inp buf r rest : Bytes) (st : FlSt) (B : FAbs) (h2 : 2 ≤ inp.length)
    (hr : verifyChar 123 (eatWs inp) = .ok r) (hloop : flLoop (r.length + 1) {} r = .ok (st, rest)) (hrel : FRel B st)
    (hok : FAbsOk B) (hs : FilterSized B.toFilter) (hbuf : (encodeFilter B.toFilter).length ≤ buf.length) :
    parseFilter inp buf = .ok (inp.length - rest.length, (encodeFilter B.toFilter).length,
      encodeFilter B.toFilter ++ buf.drop (encodeFilter B.toFilter).length) := by
  have hft : B.toFilter.tags = B.tags.map tagOf := rfl
  have hsl := TagStarts_length _ _ hrel.tags
  have htsz : tagsSize B.toFilter.tags = 4 + 2 * st.tagStarts.length + tagsBodySize B.toFilter.tags := by
    rw [hsl, hft]; simp [tagsSize]
  rw [encodeFilter_length B.toFilter hs, htsz] at hbuf
  obtain ⟨p1, p2, p3, p4, p5, p6⟩ := filterSize_le hbuf
  have c1 : copyOpt32 st.startIds 32 buf.length = .ok B.toFilter.ids :=
    copyOpt32_saved B.ids _ hrel.ids0 hrel.ids1 hok.ids _ _ p1 hs.nIds
  have c2 : copyOpt32 st.startAuthors (32 + 32 * B.toFilter.ids.length) buf.length = .ok B.toFilter.authors :=
    copyOpt32_saved B.authors _ hrel.au0 hrel.au1 hok.authors _ _ p2 hs.nAuthors
  have c3 : copyOptKinds st.startKinds (32 + 32 * B.toFilter.ids.length + 32 * B.toFilter.authors.length) buf.length =
      .ok B.toFilter.kinds :=
    copyOptKinds_saved B.kinds _ hrel.ki0 hrel.ki1 hok.kinds _ _ p3 hs.nKinds
  obtain ⟨offs, c4⟩ := copyTagFields_saved st.tagStarts B.tags hrel.tags hok.tags 0
    (32 + 32 * B.toFilter.ids.length + 32 * B.toFilter.authors.length + 2 * B.toFilter.kinds.length)
    (32 + 32 * B.toFilter.ids.length + 32 * B.toFilter.authors.length + 2 * B.toFilter.kinds.length + 4 + 2 * st.tagStarts.length)
    buf.length (hft ▸ p6) (by rw [Nat.zero_add, ← hsl]; exact p5)
  rw [← hft] at c4
  -- the offsets are those of `encodeTags` for every accepted input; the first body lies `4 + 2n` behind the section's start
  have hoffs := ((copyTagFields_all _ _ _ _ _ (4 + 2 * st.tagStarts.length) (Nat.add_assoc _ _ _)).of_ok c4).2.1
  have henc := encodeTags_of_parts B.toFilter.tags st.tagStarts.length offs
    (by rw [hsl]; exact List.length_map _) hoffs
  unfold parseFilter
  rw [if_neg (Nat.not_lt.mpr h2), if_neg (Nat.not_lt.mpr (Nat.le_trans (Nat.le_add_right 32 _) p1)), hr]
  simp only [hloop, c1, c2, c3]
  rw [if_neg (Nat.not_lt.mpr p4), c4]
  simp only []
  -- the three counts and the tag section are below 2^16, so the whole fits `u32`
  rw [← htsz] at henc ⊢
  rw [if_neg (Nat.not_lt.mpr hs.tags),
    if_neg (by have := hs.tags; have := hs.nIds; have := hs.nAuthors; have := hs.nKinds; unfold U32MAX; omega),
    henc, hrel.limit, hrel.since, hrel.until]
  rfl

/-- `C07.any_order_any_whitespace_unknown_members`, with the member list and the filter as parameters under an equation each
(`hm`, `hf`): a caller passes what it has proved of them (the round trip: `canonSpecs_map`, `canonMems_denote`) instead of
rewriting; otherwise `_ rfl` -/
theorem parseFilter_any_order (ms : List FSpec) (hws : ∀ x ∈ ms, x.WsOk) (mems : List FMem) (hm : ms.map (·.m) = mems)
    (hacc : ({} : FAbs).accepts mems) (lead wEnd rest buf : Bytes) (hlead : AllWs lead) (hwe : SepWs wEnd)
    (f : FilterRec) (hf : (({} : FAbs).run mems).toFilter = f) (hs : FilterSized f)
    (hbuf : (encodeFilter f).length ≤ buf.length) :
    parseFilter (lead ++ 123 :: flText ms (wEnd ++ 125 :: rest)) buf =
      .ok ((lead ++ 123 :: flText ms (wEnd ++ 125 :: rest)).length - rest.length, (encodeFilter f).length,
        encodeFilter f ++ buf.drop (encodeFilter f).length) := by
  subst hm hf
  have hlenT := flText_length ms (wEnd ++ 125 :: rest)
  simp only [List.length_append, List.length_cons] at hlenT
  obtain ⟨st', hloop, hrel⟩ := flLoop_mems ms hws {} {} FRel_init hacc wEnd rest hwe
    ((flText ms (wEnd ++ 125 :: rest)).length + 1) (by omega)
  exact parseFilter_second_pass _ buf _ rest st' _ (by simp only [List.length_append, List.length_cons]; omega)
    (by rw [eatWs_ws_keep lead 123 _ hlead (by decide)]; rfl) hloop hrel
    (FAbsOk_run _ {} ⟨by simp, by simp, by simp, by simp⟩ hacc) hs hbuf

theorem parseFilter_reject (ms : List FSpec) (hws : ∀ x ∈ ms, x.WsOk) (hok : ∀ x ∈ ms, FMemOk x.m)
    (hrej : ¬ ({} : FAbs).accepts (ms.map (·.m))) (lead wEnd rest buf : Bytes) (hlead : AllWs lead) (hwe : SepWs wEnd) :
    parseFilter (lead ++ 123 :: flText ms (wEnd ++ 125 :: rest)) buf = .err := by
  have hloop := flLoop_reject ms hws {} {} FRel_init hok hrej wEnd rest hwe
    ((flText ms (wEnd ++ 125 :: rest)).length + 1)
  unfold parseFilter
  by_cases h2 : (lead ++ 123 :: flText ms (wEnd ++ 125 :: rest)).length < 2
  · rw [if_pos h2]
  · by_cases h32 : buf.length < 32
    · rw [if_neg h2, if_pos h32]
    · rw [if_neg h2, if_neg h32, eatWs_ws_keep lead 123 _ hlead (by decide)]
      simp only [verifyChar, if_true, hloop]

end Pocket
