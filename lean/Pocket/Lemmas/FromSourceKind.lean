import Pocket.Src.Kind
import Pocket.Model.Kind
/- The kind predicates of `kind.rs` (`Pocket/Src/Kind.lean`, regenerated from /repo on every check run) against the model's. -/
namespace Pocket

/-- the three kind predicates of `kind.rs` are the model's; by arithmetic, so any equivalent respelling of the ranges still proves -/
theorem kind_predicates_from_source (k : Nat) :
    Src.kindIsReplaceable k = isReplaceable k ∧ Src.kindIsEphemeral k = isEphemeral k ∧
      Src.kindIsParamReplaceable k = isParamReplaceable k := by
  refine ⟨?_, ?_, ?_⟩
  · rw [Bool.eq_iff_iff]; simp [Src.kindIsReplaceable, isReplaceable] <;> omega
  · rw [Bool.eq_iff_iff]; simp [Src.kindIsEphemeral, isEphemeral] <;> omega
  · rw [Bool.eq_iff_iff]; simp [Src.kindIsParamReplaceable, isParamReplaceable] <;> omega

end Pocket
