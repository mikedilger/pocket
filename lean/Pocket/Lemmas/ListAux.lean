/- Arithmetic, `if` and lists: nothing of the model, core Lean only. -/
namespace Pocket

theorem add_mul_mod_lt {a n : Nat} (k : Nat) (h : a < n) : (a + n * k) % n = a :=
  (Nat.add_mul_mod_self_left a n k).trans (Nat.mod_eq_of_lt h)

/-- two neighbouring digits recompose: the digit of `x` at weight `k` in base `m`, and what is below it -/
theorem digit_add_mod (x k m : Nat) : x / k % m * k + x % k = x % (k * m) := by
  rw [Nat.mod_mul, Nat.add_comm, Nat.mul_comm]

/-- opens an induction over a fuelled loop: `obtain ⟨f, rfl⟩ := exists_eq_add_one_of_le hf` -/
theorem exists_eq_add_one_of_le {k n : Nat} (h : k + 1 ≤ n) : ∃ m, n = m + 1 :=
  Nat.exists_eq_add_of_le' (Nat.le_of_add_left_le h)

theorem lex_lt (M x y r r' : Nat) (hr : r < M) (hr' : r' < M) :
    (x * M + r < y * M + r') ↔ (x < y ∨ (x = y ∧ r < r')) := by
  -- a step of the leading digit outweighs the trailing one: `(x + 1) * M ≤ y * M` when `x < y`
  rcases Nat.lt_trichotomy x y with h | rfl | h
  · have := Nat.mul_le_mul_right M (Nat.succ_le_of_lt h)
    rw [Nat.succ_mul] at this
    omega
  · omega
  · have := Nat.mul_le_mul_right M (Nat.succ_le_of_lt h)
    rw [Nat.succ_mul] at this
    omega

theorem ite_gt_eq_max (a b : Nat) : (if b > a then b else a) = max a b := by
  by_cases h : b > a
  · rw [if_pos h, Nat.max_eq_right (Nat.le_of_lt h)]
  · rw [if_neg h, Nat.max_eq_left (Nat.le_of_not_lt h)]

theorem ite_lt_eq_min (a b : Nat) : (if a < b then a else b) = min a b := by
  by_cases h : a < b
  · rw [if_pos h, Nat.min_eq_left (Nat.le_of_lt h)]
  · rw [if_neg h, Nat.min_eq_right (Nat.le_of_not_lt h)]

theorem ite_ite_same {α : Type} (a b : Prop) [Decidable a] [Decidable b] (e x : α) :
    (if a then e else if b then e else x) = if a ∨ b then e else x := by
  by_cases ha : a
  · rw [if_pos ha, if_pos (Or.inl ha)]
  · rw [if_neg ha]
    by_cases hb : b
    · rw [if_pos hb, if_pos (Or.inr hb)]
    · rw [if_neg hb, if_neg fun h => h.elim ha hb]

/-- one guard of a chain `if c₁ then some a₁ else if c₂ then some a₂ else …`, read without a case split: under `simp` the two
turn `chain = some b` into the alternatives guard by guard, `chain = none` into "every guard fails" -/
theorem ite_some_eq_some {α : Type} {c : Prop} [Decidable c] {a b : α} {e : Option α} :
    (if c then some a else e) = some b ↔ c ∧ a = b ∨ ¬ c ∧ e = some b := by
  by_cases h : c <;> simp [h]

theorem ite_some_eq_none {α : Type} {c : Prop} [Decidable c] {a : α} {e : Option α} :
    (if c then some a else e) = none ↔ ¬ c ∧ e = none := by
  by_cases h : c <;> simp [h]

theorem drop_len_succ {α : Type} (e x : List α) (b : α) : (e ++ b :: x).drop (e.length + 1) = x :=
  List.drop_length_add_append 1

/-- a value of `n` items written over the head of a buffer: the head is the value, the rest and the length are the buffer's -/
theorem written_prefix {α : Type} (enc buf : List α) (n : Nat) (hlen : enc.length = n) (hn : n ≤ buf.length) :
    (enc ++ buf.drop n).take n = enc ∧ (enc ++ buf.drop n).drop n = buf.drop n ∧ (enc ++ buf.drop n).length = buf.length :=
  ⟨List.take_left' hlen, List.drop_left' hlen, by rw [List.length_append, List.length_drop, hlen]; omega⟩

/-- induction over two lists of one length (`induction a, b, h using eqLen_induction`) -/
theorem eqLen_induction {α : Type} {motive : (a b : List α) → a.length = b.length → Prop} (nil : motive [] [] rfl)
    (cons : ∀ x y a b h, motive a b h → motive (x :: a) (y :: b) (congrArg (· + 1) h)) :
    ∀ a b h, motive a b h
  | [], [], _ => nil
  | [], _ :: _, h => by simp at h
  | _ :: _, [], h => by simp at h
  | x :: a, y :: b, h => cons x y a b (Nat.succ.inj h) (eqLen_induction nil cons a b (Nat.succ.inj h))

theorem append_beq {α : Type} [BEq α] [LawfulBEq α] (a a' b b' : List α) (h : a.length = a'.length) : (a ++ b == a' ++ b') = (a == a' && b == b') := by
  rw [Bool.eq_iff_iff, Bool.and_eq_true, beq_iff_eq, beq_iff_eq, beq_iff_eq]
  exact ⟨fun e => List.append_inj e h, fun ⟨e1, e2⟩ => by rw [e1, e2]⟩

theorem key_inj {α β : Type} (f : α → β) (l : List α) (h : (l.map f).Nodup) :
    ∀ x ∈ l, ∀ y ∈ l, f x = f y → x = y := by
  induction l with
  | nil => exact fun _ hx => nomatch hx
  | cons a l ih =>
    rw [List.map_cons, List.nodup_cons] at h
    intro x hx y hy hxy
    rcases List.mem_cons.mp hx with rfl | hx' <;> rcases List.mem_cons.mp hy with rfl | hy'
    · rfl
    · exact absurd (List.mem_map.mpr ⟨y, hy', hxy.symm⟩) h.1
    · exact absurd (List.mem_map.mpr ⟨x, hx', hxy⟩) h.1
    · exact ih h.2 x hx' y hy' hxy

theorem find?_key {α β : Type} [BEq β] [LawfulBEq β] (f : α → β) (l : List α) (h : (l.map f).Nodup)
    (x : α) (hx : x ∈ l) : l.find? (fun y => f y == f x) = some x := by
  induction l with
  | nil => cases hx
  | cons a l ih =>
    rw [List.map_cons, List.nodup_cons] at h
    rw [List.find?_cons]
    rcases List.mem_cons.mp hx with rfl | hx'
    · rw [beq_self_eq_true]
    · rw [beq_false_of_ne fun hax => h.1 (List.mem_map.mpr ⟨x, hx', hax.symm⟩)]
      exact ih h.2 hx'

theorem nodup_eraseDups {α : Type} [BEq α] [LawfulBEq α] (l : List α) : l.eraseDups.Nodup := by
  -- `eraseDups` recurses on a filtered tail: induction on a bound of the length
  suffices h : ∀ (n : Nat) (l : List α), l.length ≤ n → l.eraseDups.Nodup from h _ l (Nat.le_refl _)
  intro n
  induction n with
  | zero =>
    intro l h
    have : l = [] := List.eq_nil_of_length_eq_zero (by omega)
    subst this; simp
  | succ n ih =>
    intro l h
    cases l with
    | nil => simp
    | cons a as =>
      rw [List.eraseDups_cons, List.nodup_cons]
      constructor
      · rw [List.mem_eraseDups, List.mem_filter]
        simp
      · apply ih
        have := List.length_filter_le (fun b => !b == a) as
        simp only [List.length_cons] at h
        omega

/-- of the images of a duplicate-free list of keys, a test that holds exactly at `k0` (and then iff `c`) keeps at most that one -/
theorem filter_map_key {κ β : Type} [BEq κ] [LawfulBEq κ] (l : List κ) (hn : l.Nodup) (g : κ → β) (r : β → Bool) (k0 : κ) (c : Bool)
    (hr : ∀ k ∈ l, r (g k) = (k == k0 && c)) :
    (l.map g).filter r = if (c && decide (k0 ∈ l)) = true then [g k0] else [] := by
  rw [List.filter_map, List.filter_congr (p := r ∘ g) (q := fun k => k == k0 && c) hr]
  cases c
  · simp
  · simp only [Bool.and_true, Bool.true_and, decide_eq_true_eq, List.filter_beq, hn.count]
    split <;> rfl

theorem filterMap_cons_toList {α β : Type} (f : α → Option β) (a : α) (l : List α) :
    (a :: l).filterMap f = (f a).toList ++ l.filterMap f := by
  rw [List.filterMap_cons]; cases f a <;> rfl

theorem nodup_filterMap_cons {α β : Type} (f : α → Option β) (a : α) (l : List α) :
    ((a :: l).filterMap f).Nodup ↔ (l.filterMap f).Nodup ∧ ∀ b ∈ l, f b = none ∨ f b ≠ f a := by
  cases hs : f a with
  | none =>
    simp only [List.filterMap_cons, hs]
    exact ⟨fun h => ⟨h, fun b _ => by cases f b <;> simp⟩, fun h => h.1⟩
  | some k =>
    simp only [List.filterMap_cons, hs, List.nodup_cons, List.mem_filterMap, not_exists, not_and]
    constructor
    · rintro ⟨h1, h2⟩
      refine ⟨h2, fun b hb => ?_⟩
      cases hb' : f b with
      | none => exact Or.inl rfl
      | some k' => exact Or.inr fun heq => h1 b hb (by rw [hb', heq])
    · rintro ⟨h1, h2⟩
      refine ⟨fun b hb heq => ?_, h1⟩
      rcases h2 b hb with h | h
      · rw [h] at heq; cases heq
      · exact h heq

theorem insert_perm {α : Type} (ins : α → List α → List α) (lt : α → α → Bool) (hnil : ∀ x, ins x [] = [x])
    (hcons : ∀ x y ys, ins x (y :: ys) = if lt x y then x :: y :: ys else y :: ins x ys) (x : α) (l : List α) :
    (ins x l).Perm (x :: l) := by
  induction l with
  | nil => rw [hnil]
  | cons y ys ih =>
    rw [hcons]
    split
    · exact List.Perm.refl _
    · exact (List.Perm.cons y ih).trans (List.Perm.swap x y ys)

theorem foldr_insert_perm {α : Type} (ins : α → List α → List α) (h : ∀ x l, (ins x l).Perm (x :: l))
    (l : List α) : (l.foldr ins []).Perm l := by
  induction l with
  | nil => exact .refl _
  | cons x xs ih => exact (h x _).trans (ih.cons x)

theorem any_filter_not {α : Type} (l : List α) (p q : α → Bool) :
    (l.filter fun x => !(p x && q x)).any p = l.any fun x => p x && !q x := by
  rw [List.any_filter]
  exact List.any_congr rfl fun x => by cases p x <;> cases q x <;> rfl

theorem flatMap_ite {α β : Type} (p : α → Bool) (g : α → β) (l : List α) :
    (l.flatMap fun x => if p x then [g x] else []) = (l.filter p).map g := by
  induction l with
  | nil => rfl
  | cons x xs ih =>
    rw [List.flatMap_cons, ih, List.filter_cons]
    by_cases h : p x <;> simp [h]

/-! ### `if c then [] else [m]`: a list member that is written unless a condition holds -/

theorem isEmpty_ite_singleton {α : Type} (c : Prop) [Decidable c] (m : α) :
    (if c then [] else [m]).isEmpty = decide c := by
  split <;> simp [*]

theorem mem_ite_singleton {α : Type} (c : Prop) [Decidable c] (x m : α) :
    m ∈ (if c then [] else [x]) ↔ ¬ c ∧ m = x := by
  split <;> simp [*]

theorem filterMap_ite_singleton {α β : Type} (c : Prop) [Decidable c] (g : α → Option β) (m : α) :
    (if c then [] else [m]).filterMap g = if c then [] else (g m).toList := by
  split
  · rfl
  · cases h : g m <;> simp [h]

theorem ite_singleton_sublist {α : Type} (c : Prop) [Decidable c] (k : α) : (if c then [] else [k]).Sublist [k] := by
  split <;> simp

/-- three early returns that leave the state alone, read as one optional verdict -/
theorem refusals_first {α β : Type} (c1 c2 c3 : Prop) [Decidable c1] [Decidable c2] [Decidable c3]
    (x1 x2 x3 : α) (a : β) (R : α × β) :
    (if c1 then (x1, a) else if c2 then (x2, a) else if c3 then (x3, a) else R) =
      match (if c1 then some x1 else if c2 then some x2 else if c3 then some x3 else none : Option α) with
      | some r => (r, a)
      | none => R := by
  by_cases h1 : c1
  · rw [if_pos h1, if_pos h1]
  rw [if_neg h1, if_neg h1]
  by_cases h2 : c2
  · rw [if_pos h2, if_pos h2]
  rw [if_neg h2, if_neg h2]
  by_cases h3 : c3
  · rw [if_pos h3, if_pos h3]
  · rw [if_neg h3, if_neg h3]

end Pocket
