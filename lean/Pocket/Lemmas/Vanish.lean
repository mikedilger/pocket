import Pocket.Lemmas.FindNewest
/- `vanish` is two queries, each followed by the removal, one by one, of what it found.  On an index with unique ids and
addresses and fewer entries than the queries' limit that is one filter (`vanishLive_eq_filter`), from which exactness (C18)
and the refinement of `vanish` are read off. -/
namespace Pocket

theorem removeAll_eq_filter (live evs : List SEv) :
    removeAll live evs = live.filter fun x => !(evs.any fun y => y.e.id == x.e.id) := by
  unfold removeAll
  induction evs generalizing live with
  | nil => exact (List.filter_eq_self.mpr fun _ _ => rfl).symm
  | cons a rest ih =>
    rw [List.foldl_cons, ih, removeId, List.filter_filter]
    apply List.filter_congr
    intro x _
    rw [List.any_cons, Bool.not_or, Bool.and_comm, bne, Bool.beq_comm (a := a.e.id)]

/-- removing everything an unlimited, always-allowed query finds is filtering out what matches -/
theorem remove_found_exact (live : List SEv) (f : FilterRec) (hsl : SingleLetter f)
    (hids : (live.map (·.e.id)).Nodup) (hau : AddrUniq live) (hnl : live.length < f.limit) :
    removeFound live (findEvents live f true 0 0 0 (fun _ => Screen.match)) =
      live.filter fun x => !eventMatches f x.e := by
  cases hf : findEvents live f true 0 0 0 (fun _ => Screen.match) with
  | scraper =>
    have := ((findState_eq_none ..).mp ((findEvents_eq_scraper ..).mp hf)).2.2.2
    simp [scrapeAllowed] at this
  | ok evs red =>
    rw [removeFound, removeAll_eq_filter]
    apply List.filter_congr
    intro x hx
    congr 1
    -- the query finds exactly the indexed events that match, and ids name one entry
    have hex := findEvents_exact_on_index live f true 0 0 0 _ evs red hids hau hsl hf hnl
    rw [Bool.eq_iff_iff, List.any_eq_true]
    refine ⟨fun ⟨z, hz, hid⟩ => ?_, fun hm => ⟨x, (hex x).mpr ⟨hx, hm, rfl⟩, beq_self_eq_true _⟩⟩
    obtain ⟨hzl, hzm, _⟩ := (hex z).mp hz
    rwa [nodup_ids_inj _ hids z hzl x hx (beq_iff_eq.mp hid)] at hzm

theorem authorFilter_matches (pk : Bytes) (e : EventRec) (ht : e.createdAt ≤ U64MAX) :
    eventMatches (authorFilter pk) e = (e.pubkey == pk) := by
  rw [Bool.eq_iff_iff, eventMatches_iff _ _ (fun c hc => absurd hc (by simp [authorFilter]))]
  simp [C06.matchesSpec, authorFilter, ht]

theorem wrapFilter_matches (pk : Bytes) (e : EventRec) (ht : e.createdAt ≤ U64MAX) :
    eventMatches (wrapFilter pk) e = (e.kind == 1059 && tagsMatch e.tags KEY_P (hexOf pk)) := by
  rw [Bool.eq_iff_iff, eventMatches_iff _ _ (fun c hc => by simp only [wrapFilter, List.mem_singleton] at hc; rw [hc]; exact nofun),
    Bool.and_eq_true, tagsMatch_iff]
  simp [C06.matchesSpec, wrapFilter, ht]

/-- `hau` is there only because `findEvents_exact` asks it of every filter (the author+kind plan stops at the first event of a
replaceable kind); neither plan `vanish` runs (authors alone; kind and tag) stops on the first -/
theorem vanishLive_eq_filter (live : List SEv) (hids : (live.map (·.e.id)).Nodup) (hau : AddrUniq live)
    (hlen : live.length < U32MAX) (ht : ∀ y ∈ live, y.e.createdAt ≤ U64MAX) (pk : Bytes) :
    vanishWraps (vanishAuthored live pk) pk =
      live.filter fun x => !(x.e.pubkey == pk) && !(x.e.kind == 1059 && tagsMatch x.e.tags KEY_P (hexOf pk)) := by
  have hsl1 : SingleLetter (authorFilter pk) := fun c hc => by simp [authorFilter] at hc
  have hsl2 : SingleLetter (wrapFilter pk) := by
    intro c hc
    simp only [wrapFilter, List.mem_singleton] at hc
    exact ⟨112, [hexOf pk], by rw [hc]; rfl⟩
  have h1 : vanishAuthored live pk = live.filter fun x => !eventMatches (authorFilter pk) x.e :=
    remove_found_exact live _ hsl1 hids hau (by simpa [authorFilter] using hlen)
  -- the second query runs on what the first left: still unique ids and addresses, and not longer
  have hsub := vanishAuthored_sublist live pk
  have h2 := remove_found_exact (vanishAuthored live pk) (wrapFilter pk) hsl2 (hids.sublist (hsub.map _))
    (AddrUniq_subset _ _ hau fun z hz => hsub.subset hz)
    (by simpa [wrapFilter] using Nat.lt_of_le_of_lt hsub.length_le hlen)
  rw [vanishWraps, h2, h1, List.filter_filter]
  apply List.filter_congr
  intro x hx
  rw [Bool.and_comm, authorFilter_matches pk x.e (ht x hx), wrapFilter_matches pk x.e (ht x hx)]

/-- the test `absVanish` filters by, read as a proposition -/
theorem vanishKeeps_iff (pk : Bytes) (e : EventRec) :
    (!(e.pubkey == pk) && !(e.kind == 1059 && tagsMatch e.tags KEY_P (hexOf pk))) = true ↔
      (e.pubkey ≠ pk ∧ ¬ (e.kind = 1059 ∧ tagsMatch e.tags KEY_P (hexOf pk) = true)) := by
  cases tagsMatch e.tags KEY_P (hexOf pk) <;> simp

/-- the hypotheses hold in every reachable state of a real store (`C18.vanish_exact`) -/
theorem vanish_exact (s : Store) (hids : (s.db.live.map (·.e.id)).Nodup) (hau : AddrUniq s.db.live)
    (hlen : s.db.live.length < U32MAX) (ht : ∀ y ∈ s.db.live, y.e.createdAt ≤ U64MAX) (pk : Bytes) (x : SEv) :
    x ∈ (vanish s pk).db.live ↔
      (x ∈ s.db.live ∧ x.e.pubkey ≠ pk ∧ ¬ (x.e.kind = 1059 ∧ tagsMatch x.e.tags KEY_P (hexOf pk) = true)) := by
  simp only [vanish_eq]
  rw [vanishLive_eq_filter s.db.live hids hau hlen ht pk, List.mem_filter, vanishKeeps_iff]

end Pocket
