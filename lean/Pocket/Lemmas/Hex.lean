import Pocket.Model.JsonParse
import Pocket.Lemmas.ListAux
/- Hex characters: `hexInv` (the lookup in `HEX_INVERSE`) and `hexVal` (the three range tests `json_unescape` makes on a `\u` digit
instead) are one function, and read back what `hexOf` writes. -/
namespace Pocket

theorem hexInv_eq_some {c v : Nat} : hexInv c = some v ↔
    48 ≤ c ∧ c ≤ 57 ∧ v + 48 = c ∨ 65 ≤ c ∧ c ≤ 70 ∧ v + 55 = c ∨ 97 ≤ c ∧ c ≤ 102 ∧ v + 87 = c := by
  unfold hexInv
  by_cases h1 : 48 ≤ c ∧ c ≤ 57
  · rw [if_pos h1, Option.some.injEq]
    exact ⟨fun h => .inl ⟨h1.1, h1.2, h ▸ Nat.sub_add_cancel h1.1⟩, fun h => Nat.sub_eq_of_eq_add (by omega)⟩
  · rw [if_neg h1]
    by_cases h2 : 65 ≤ c ∧ c ≤ 70
    · rw [if_pos h2, Option.some.injEq]
      exact ⟨fun h => .inr (.inl ⟨h2.1, h2.2, h ▸ Nat.sub_add_cancel (Nat.le_trans (by decide) h2.1)⟩), fun h => Nat.sub_eq_of_eq_add (by omega)⟩
    · rw [if_neg h2]
      by_cases h3 : 97 ≤ c ∧ c ≤ 102
      · rw [if_pos h3, Option.some.injEq]
        exact ⟨fun h => .inr (.inr ⟨h3.1, h3.2, h ▸ Nat.sub_add_cancel (Nat.le_trans (by decide) h3.1)⟩), fun h => Nat.sub_eq_of_eq_add (by omega)⟩
      · rw [if_neg h3]; simp only [reduceCtorEq, false_iff]; omega

/-- on the letters `c - 65 + 10` is `c - 55` -/
theorem hexVal_eq_hexInv (c : Nat) : hexVal c = hexInv c := by
  unfold hexVal hexInv
  refine ite_congr rfl (fun _ => rfl) fun _ => ite_congr rfl (fun h => ?_) fun _ => ite_congr rfl (fun h => ?_) fun _ => rfl
  · exact congrArg some ((Nat.sub_add_comm h.1).symm.trans (Nat.add_sub_add_right c 10 55))
  · exact congrArg some ((Nat.sub_add_comm h.1).symm.trans (Nat.add_sub_add_right c 10 87))

/-- a `\u` digit is an ASCII character other than `"` and `\`, and its value is below 16 -/
theorem hexVal_lt (h d : Nat) (hh : hexVal h = some d) : h < 128 ∧ d < 16 ∧ h ≠ 34 ∧ h ≠ 92 := by
  have := hexInv_eq_some.1 (hexVal_eq_hexInv h ▸ hh)
  omega

theorem hexDigitLower_range {d : Nat} (h : d < 16) :
    48 ≤ hexDigitLower d ∧ hexDigitLower d ≤ 57 ∨ 97 ≤ hexDigitLower d ∧ hexDigitLower d ≤ 102 := by
  unfold hexDigitLower; split <;> omega

theorem hexInv_hexDigitLower {d : Nat} (h : d < 16) : hexInv (hexDigitLower d) = some d := by
  unfold hexDigitLower
  by_cases h10 : d < 10
  · rw [if_pos h10]; exact hexInv_eq_some.2 (.inl ⟨by omega, by omega, by omega⟩)
  · rw [if_neg h10]; exact hexInv_eq_some.2 (.inr (.inr ⟨by omega, by omega, by omega⟩))

theorem hexVal_hexDigitLower (d : Nat) (h : d < 16) : hexVal (hexDigitLower d) = some d := by
  rw [hexVal_eq_hexInv, hexInv_hexDigitLower h]

theorem hexOf_range (v : Bytes) : ∀ b ∈ hexOf v, 48 ≤ b ∧ b ≤ 57 ∨ 97 ≤ b ∧ b ≤ 102 := by
  induction v with
  | nil => intro b hb; cases hb
  | cons x v ih =>
    intro b hb
    simp only [hexOf, List.mem_cons] at hb
    rcases hb with rfl | rfl | hb
    · exact hexDigitLower_range (Nat.mod_lt _ (by omega))
    · exact hexDigitLower_range (Nat.mod_lt _ (by omega))
    · exact ih b hb

theorem hexOf_length (v : Bytes) : (hexOf v).length = 2 * v.length := by
  induction v with
  | nil => rfl
  | cons b rest ih => simp only [hexOf, List.length_cons, ih]; omega

theorem unhexPairs_hexOf (v : Bytes) (hb : AllBytes v) : unhexPairs (hexOf v) = .ok v := by
  induction v with
  | nil => rfl
  | cons b rest ih =>
    have hb0 : b < 256 := hb b (by simp)
    rw [hexOf, unhexPairs, hexInv_hexDigitLower (Nat.mod_lt _ (by omega)), hexInv_hexDigitLower (Nat.mod_lt _ (by omega))]
    simp only [ih (fun x hx => hb x (by simp [hx]))]
    rw [digit_add_mod b 16 16, Nat.mod_eq_of_lt hb0]

theorem hexOf_injective (a b : Bytes) (ha : AllBytes a) (hb : AllBytes b) (h : hexOf a = hexOf b) : a = b := by
  have h1 := unhexPairs_hexOf a ha
  rw [h, unhexPairs_hexOf b hb] at h1
  exact (Outcome.ok.inj h1).symm

theorem readHexField_hexOf (n : Nat) (v rest : Bytes) (hn : v.length = n) (hb : ∀ b ∈ v, b < 256) :
    readHexField n (34 :: (hexOf v ++ 34 :: rest)) = .ok (v, rest) := by
  have hl : (hexOf v).length = 2 * n := by rw [hexOf_length, hn]
  unfold readHexField
  simp only [verifyChar, if_true]
  rw [if_neg (by rw [List.length_append, hl, List.length_cons]; omega), ← hl, List.take_left' rfl, List.drop_left' rfl,
    readHex, if_neg (fun h => h hl), unhexPairs_hexOf v hb]
  simp

end Pocket
