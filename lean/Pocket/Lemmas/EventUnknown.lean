import Pocket.Lemmas.EventOrder
import Pocket.Spec.EventText
/- The member loop of `Event::from_json` over the members in any order with unknown members between them (C01):
`parseEvent_any_order_unknown`.  The text without unknown members, `evText`, is the case `ms.map .known`. -/
namespace Pocket

theorem ESpec.ws {x : ESpec} (h : x.WsOk) : AllWs x.w0 ∧ AllWs x.w3 := by
  cases x with
  | known x => exact ⟨h.1, h.2.2.2⟩
  | unknown => exact ⟨h.1, h.2.2.2.1⟩

theorem ESpec.body_head (e : EventRec) (tj ec : Bytes) (x : ESpec) : ∃ y, x.body e tj ec = 34 :: y := by
  cases x <;> exact ⟨_, rfl⟩

theorem evMember_unknown (st : EvSt) (cap : Nat) (k w1 w2 v after : Bytes) (hk : StrBody k) (hnk : k ∉ knownEKeys)
    (h1 : AllWs w1) (h2 : AllWs w2) (d : Nat) (hd : d ≤ 64) (hv : JT .val d v) (hafter : HeadNotNum after) :
    evMember st (34 :: (k ++ 34 :: (w1 ++ 58 :: (w2 ++ v))) ++ after) cap = .ok (st, after) := by
  simp only [List.append_assoc, List.cons_append]
  -- the key fails each of the parser's seven tests, which compare with `keyOf m` followed by `"`
  have e : ∀ m : EMem, startsWith (keyOf m ++ [34]) (k ++ 34 :: (w1 ++ 58 :: (w2 ++ (v ++ after)))) = false := fun m =>
    startsWith_other_key (keyOf m) k _ (by cases m <;> decide) hk fun h => hnk (h ▸ by cases m <;> decide)
  have hb := burnKeyValue_json d k w1 w2 v after hk h1 h2 hv hd hafter
  unfold evMember
  simp only [verifyChar_cons, show startsWith kId _ = false from e .id, show startsWith kSig _ = false from e .sig,
    show startsWith kKind _ = false from e .kind, show startsWith kTags _ = false from e .tags,
    show startsWith kPubkey _ = false from e .pubkey, show startsWith kContent _ = false from e .content,
    show startsWith kCreatedAt _ = false from e .createdAt, Bool.false_eq_true, if_false, hb]

theorem espec_step (e : EventRec) (tj ec : Bytes) (cap : Nat) (hc : ECtx e tj ec cap) (x : ESpec) (hw : x.WsOk)
    (seen : List EMem) (st : EvSt) (hinv : SeenInv e ec seen st) (hnew : (seen ++ x.mem?.toList).Nodup)
    (last : Bool) (X : Bytes) :
    ∃ st', evMember st (x.body e tj ec ++ Sep x.w3 last X) cap = .ok (st', Sep x.w3 last X) ∧
      SeenInv e ec (seen ++ x.mem?.toList) st' := by
  cases x with
  | known y =>
    obtain ⟨_, hw1, hw2, hw3⟩ := hw
    have hxnew : y.m ∉ seen := fun h => (List.nodup_append.mp hnew).2.2 _ h _ (List.mem_singleton_self _) rfl
    exact ⟨_, evMember_mem e tj ec cap hc seen st hinv y.m hxnew y.w1 y.w2 hw1 hw2 (Sep y.w3 last X)
      (headNotNum_sep y.w3 last X hw3).noLeadingDigit, SeenInv_step e ec seen st hinv y.m _⟩
  | unknown w0 k w1 w2 v w3 =>
    obtain ⟨_, hw1, hw2, hw3, hk, hnk, d, hd, hv⟩ := hw
    exact ⟨st, evMember_unknown st cap k w1 w2 v _ hk hnk hw1 hw2 d hd hv (headNotNum_sep w3 last X hw3),
      (List.append_nil seen).symm ▸ hinv⟩

/-- `evTextU` in one equation: `}` follows the last member, `,` every other one -/
theorem evTextU_cons (e : EventRec) (tj ec : Bytes) (x : ESpec) (ms : List ESpec) (R : Bytes) :
    evTextU e tj ec (x :: ms) R = x.w0 ++ (x.body e tj ec ++ Sep x.w3 ms.isEmpty (evTextU e tj ec ms R)) := by
  cases ms <;> rfl

theorem evLoop_round (f : Nat) (st st' : EvSt) (w0 body w3 X : Bytes) (last : Bool) (cap : Nat) (hw0 : AllWs w0)
    (hw3 : AllWs w3) (hbody : ∃ y, body = 34 :: y)
    (hmem : evMember st (body ++ Sep w3 last X) cap = .ok (st', Sep w3 last X)) :
    evLoop (f + 1) st (w0 ++ (body ++ Sep w3 last X)) cap = if last then .ok (st', X) else evLoop f st' X cap := by
  obtain ⟨y, rfl⟩ := hbody
  rw [evLoop, List.cons_append, eatWs_ws_keep w0 34 _ hw0 (by decide), ← List.cons_append, hmem]
  simp only [nextObjectField_sep w3 last X hw3]
  cases last <;> rfl

/-- `seen`: the members read so far, in text order; `hnd`: those still to come are new and occur once -/
theorem evLoop_memsU (e : EventRec) (tj ec : Bytes) (cap : Nat) (hc : ECtx e tj ec cap)
    (ms : List ESpec) (hne : ms ≠ []) (hws : ∀ x ∈ ms, x.WsOk)
    (seen : List EMem) (st : EvSt) (hinv : SeenInv e ec seen st) (hnd : (seen ++ ms.filterMap ESpec.mem?).Nodup)
    (R : Bytes) (fuel : Nat) (hf : (evTextU e tj ec ms R).length < fuel) :
    ∃ st', evLoop fuel st (evTextU e tj ec ms R) cap = .ok (st', R) ∧ SeenInv e ec (seen ++ ms.filterMap ESpec.mem?) st' := by
  induction ms generalizing seen st fuel with
  | nil => exact absurd rfl hne
  | cons x rest ih =>
    obtain ⟨f, rfl⟩ := exists_eq_add_one_of_le hf
    have hwx := hws x (by simp)
    rw [filterMap_cons_toList, ← List.append_assoc] at hnd ⊢
    obtain ⟨st1, hmem, hi⟩ := espec_step e tj ec cap hc x hwx seen st hinv (hnd.sublist (List.sublist_append_left ..))
      rest.isEmpty (evTextU e tj ec rest R)
    rw [evTextU_cons] at hf ⊢
    rw [evLoop_round f st st1 x.w0 _ x.w3 _ _ cap (ESpec.ws hwx).1 (ESpec.ws hwx).2 (x.body_head e tj ec) hmem]
    cases rest with
    | nil => exact ⟨st1, rfl, (List.append_nil _).symm ▸ hi⟩
    | cons z ms =>
      -- a round consumes at least the separator, so the fuel lasts
      exact ih (by simp) (fun w hw => hws w (by simp [hw])) (seen ++ x.mem?.toList) st1 hi hnd f
        (by simp only [List.length_append, Sep_length] at hf; omega)

theorem evTextU_length_ge (e : EventRec) (tj ec : Bytes) (ms : List ESpec) (R : Bytes) :
    ((ms.filterMap ESpec.mem?).map (fun m => (valOf e tj ec m).length)).sum ≤ (evTextU e tj ec ms R).length := by
  induction ms with
  | nil => simp
  | cons x rest ih =>
    rw [evTextU_cons, List.length_append, List.length_append, Sep_length]
    cases x with
    | known y =>
      simp only [List.filterMap_cons, ESpec.mem?, List.map_cons, List.sum_cons, ESpec.body, memText, List.length_cons,
        List.length_append]
      omega
    | unknown =>
      simp only [List.filterMap_cons, ESpec.mem?]
      omega

/-- the parser refuses texts shorter than 204 bytes; the values of id, pubkey and sig alone are longer -/
theorem evTextU_long (e : EventRec) (hs : EventSized e) (tj ec : Bytes) (ms : List ESpec)
    (hnd : (ms.filterMap ESpec.mem?).Nodup) (hall : ∀ m : EMem, m ∈ ms.filterMap ESpec.mem?) (R : Bytes) :
    204 ≤ (evTextU e tj ec ms R).length := by
  have h := evTextU_length_ge e tj ec ms R
  -- every member occurs once: the member list is a rearrangement of the seven names
  have hperm : (ms.filterMap ESpec.mem?).Perm [.id, .pubkey, .kind, .createdAt, .tags, .content, .sig] :=
    (List.perm_ext_iff_of_nodup hnd (by decide)).mpr fun m => ⟨fun _ => by cases m <;> decide, fun _ => hall m⟩
  rw [(hperm.map _).sum_nat] at h
  refine Nat.le_trans ?_ h
  simp only [List.map_cons, List.map_nil, List.sum_cons, List.sum_nil, valOf, List.length_cons,
    List.length_append, hexOf_length, hs.id, hs.pk, hs.sig, List.length_nil]
  omega

/-- any order, any whitespace, any unknown members, any spelling of the tags array and the content -/
theorem parseEvent_any_order_unknown (e : EventRec) (hs : EventSized e)
    (hbid : ∀ b ∈ e.id, b < 256) (hbpk : ∀ b ∈ e.pubkey, b < 256) (hbsig : ∀ b ∈ e.sig, b < 256)
    (tj ec : Bytes) (htj : TagsText e.tags tj) (hec : Spells e.content ec) (buf : Bytes)
    (hbuf : (encodeEvent e).length ≤ buf.length)
    (ms : List ESpec) (hws : ∀ x ∈ ms, x.WsOk) (hnd : (ms.filterMap ESpec.mem?).Nodup)
    (hall : ∀ m : EMem, m ∈ ms.filterMap ESpec.mem?) (lead : Bytes) (hlead : AllWs lead) (R : Bytes) :
    parseEvent (lead ++ 123 :: evTextU e tj ec ms R) buf =
      .ok ((lead ++ 123 :: evTextU e tj ec ms R).length - R.length, (encodeEvent e).length,
        encodeEvent e ++ buf.drop (encodeEvent e).length) := by
  have hlenE := encodeEvent_length e hs
  have hcapb : 144 + tagsSize e.tags + 4 + e.content.length ≤ buf.length := by rw [hlenE] at hbuf; exact hbuf
  have hc : ECtx e tj ec buf.length := ⟨hs, hbid, hbpk, hbsig, htj, hec, hcapb⟩
  -- the two size tests of `parseEvent`
  have hlong : ¬ (lead ++ 123 :: evTextU e tj ec ms R).length < 204 := by
    have := evTextU_long e hs tj ec ms hnd hall R
    simp only [List.length_append, List.length_cons]; omega
  have hwide : ¬ buf.length < 152 := Nat.not_lt.2 (Nat.le_trans (encodeEvent_length_ge e hs) hbuf)
  have hne : ms ≠ [] := by
    intro h; subst h; have := hall .id; simp at this
  obtain ⟨st', hloop, hinv⟩ := evLoop_memsU e tj ec buf.length hc ms hne hws [] {} (SeenInv_init e ec)
    (by rwa [List.nil_append]) R _ (Nat.lt_succ_self _)
  rw [List.nil_append] at hinv
  unfold parseEvent
  rw [if_neg hlong, if_neg hwide]
  rw [eatWs_ws_keep lead 123 _ hlead (by decide), verifyChar_cons]
  dsimp only
  rw [hloop]
  simp only [hinv.id, hinv.pk, hinv.sig, hinv.kind, hinv.t, hinv.tags, hinv.content, hall, and_self, if_true]
  have henc : encodeEventWith e.id e.pubkey e.sig e.kind e.createdAt (encodeTags e.tags) e.content = encodeEvent e := rfl
  rw [henc]

theorem evText_eq_evTextU (e : EventRec) (tj ec : Bytes) (ms : List MemSpec) (R : Bytes) :
    evText e tj ec ms R = evTextU e tj ec (ms.map .known) R := by
  induction ms with
  | nil => rfl
  | cons x rest ih =>
    cases rest with
    | nil => rfl
    | cons y ms' => simp only [evText, List.map_cons, evTextU, ih]; rfl

theorem filterMap_known (ms : List MemSpec) : (ms.map ESpec.known).filterMap ESpec.mem? = ms.map (·.m) := by
  induction ms with
  | nil => rfl
  | cons x rest ih => simp [ESpec.mem?, ih]

end Pocket
