import Pocket.Lemmas.JsonText
import Pocket.Lemmas.Layout
import Pocket.Model.Verify
/- The NIP-01 serialization `canon` that `verify` and `sign_new` hash (C08): id and signature are not part of it, a UTF-8 event
has one, and it determines the hashed fields (`canon_injective`). -/
namespace Pocket

theorem canon_id_sig (e : EventRec) (id' sig' : Bytes) : canon { e with id := id', sig := sig' } = canon e := rfl

/-- serialization panics only if the tags' own serialization does (`json_escape` never does) -/
theorem canon_ne_panic (e : EventRec) (ht : tagsJson e.tags ≠ .panic) : canon e ≠ .panic := by
  unfold canon
  cases h1 : jsonEscape e.content with
  | panic => exact absurd h1 (jsonEscape_all _).ne_panic
  | err => exact nofun
  | ok ec =>
    cases h2 : tagsJson e.tags with
    | panic => exact absurd h2 ht
    | err => exact nofun
    | ok tj => exact nofun

theorem canon_ok (e : EventRec) (t : TagsUtf8 e.tags) (u : IsUtf8 e.content) : ∃ c, canon e = .ok c := by
  obtain ⟨tj, htj, _⟩ := tagsJson_ok e.tags t
  obtain ⟨ec, hec⟩ := IsUtf8_escape e.content u
  exact ⟨_, by rw [canon, hec, htj]⟩

theorem verify_of_canon (H : Bytes → Bytes) (SV : Bytes → Bytes → Bytes → Bool) (e : EventRec) (c : Bytes)
    (hc : canon e = .ok c) :
    verify H SV e = if H c = e.id ∧ SV e.pubkey e.id e.sig = true then .ok () else .err := by
  unfold verify
  rw [hc]
  dsimp only
  by_cases h1 : H c = e.id
  · simp only [h1, if_true, true_and]
  · rw [if_neg h1, if_neg fun h => h1 h.1]

theorem read_inj {α : Type} (f : Bytes → Outcome (α × Bytes)) {x₁ x₂ r₁ r₂ : Bytes} {v₁ v₂ : α}
    (hx : x₁ = x₂) (h₁ : f x₁ = .ok (v₁, r₁)) (h₂ : f x₂ = .ok (v₂, r₂)) : v₁ = v₂ ∧ r₁ = r₂ := by
  subst hx
  rw [h₁] at h₂
  cases h₂
  exact ⟨rfl, rfl⟩

/-- `canon` is injective on sized UTF-8 events: field by field, the model's reader of the field reads it off both equal texts -/
theorem canon_injective (e₁ e₂ : EventRec) (s₁ : EventSized e₁) (s₂ : EventSized e₂)
    (b₁ : ∀ x ∈ e₁.pubkey, x < 256) (b₂ : ∀ x ∈ e₂.pubkey, x < 256)
    (t₁ : TagsUtf8 e₁.tags) (t₂ : TagsUtf8 e₂.tags) (u₁ : IsUtf8 e₁.content) (u₂ : IsUtf8 e₂.content)
    (c : Bytes) (h₁ : canon e₁ = .ok c) (h₂ : canon e₂ = .ok c) :
    e₁.pubkey = e₂.pubkey ∧ e₁.createdAt = e₂.createdAt ∧ e₁.kind = e₂.kind ∧ e₁.tags = e₂.tags ∧
      e₁.content = e₂.content := by
  obtain ⟨ec₁, hec₁, hs₁⟩ := jsonEscape_ok e₁.content u₁
  obtain ⟨ec₂, hec₂, hs₂⟩ := jsonEscape_ok e₂.content u₂
  obtain ⟨tj₁, htj₁, htt₁⟩ := tagsJson_ok e₁.tags t₁
  obtain ⟨tj₂, htj₂, htt₂⟩ := tagsJson_ok e₂.tags t₂
  simp only [canon, hec₁, htj₁, hec₂, htj₂, Outcome.ok.injEq] at h₁ h₂
  have h := h₁.trans h₂.symm
  simp only [List.append_assoc, List.cons_append, List.nil_append, List.cons.injEq, true_and] at h
  have comma : ∀ r : Bytes, NoLeadingDigit (44 :: r) := fun r => noLeadingDigit_of 44 r (by decide)
  obtain ⟨hp, h⟩ := List.append_inj h (by rw [hexOf_length, hexOf_length, s₁.pk, s₂.pk])
  have h := (List.cons.inj (List.cons.inj h).2).2  -- past `",`
  obtain ⟨ht, h⟩ := read_inj readU64 h (readU64_decOf e₁.createdAt _ s₁.t (comma _)) (readU64_decOf e₂.createdAt _ s₂.t (comma _))
  have h := (List.cons.inj h).2  -- past `,`
  obtain ⟨hk, h⟩ := read_inj readKind h (readKind_decOf e₁.kind _ s₁.kind (comma _)) (readKind_decOf e₂.kind _ s₂.kind (comma _))
  have h := (List.cons.inj h).2
  obtain ⟨h, htags⟩ := read_inj (readTagsArray · 65535) h
    (readTagsArray_text e₁.tags tj₁ _ htt₁ 65535 s₁.tags s₁.tags)
    (readTagsArray_text e₂.tags tj₂ _ htt₂ 65535 s₂.tags s₂.tags)
  have h : ec₁ ++ 34 :: [93] = ec₂ ++ 34 :: [93] := (List.cons.inj (List.cons.inj h).2).2  -- past `,"`
  obtain ⟨_, hc⟩ := read_inj (jsonUnescape · (e₁.content.length + e₂.content.length)) h
    (jsonUnescape_spells e₁.content ec₁ [93] _ hs₁ (Nat.le_add_right ..)) (jsonUnescape_spells e₂.content ec₂ [93] _ hs₂ (Nat.le_add_left ..))
  exact ⟨hexOf_injective _ _ b₁ b₂ hp, ht, hk, encodeTags_injective _ _ s₁.tags s₂.tags htags, hc⟩

end Pocket
