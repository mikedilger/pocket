import Pocket.Lemmas.Digits
import Pocket.Lemmas.Spelling
import Pocket.Model.ParseEvent
import Pocket.Spec.JsonText
/- Skipping of unknown members (`burn_key_and_value`, `burn_value`, `burn_array`, `burn_object`, `burn_string`,
`burn_number`): every text of the grammar `JT` (`Spec/JsonText.lean`) nested at most 64 deep is consumed exactly, whatever
follows it that a number could not run into (`HeadNotNum`). -/
namespace Pocket

theorem isDigit_numberChar (b : Nat) (h : isDigit b = true) : numberChars.contains b = true := by
  have hk : ∀ k < 10, numberChars.contains (48 + k) = true := by decide
  have := (isDigit_iff b).mp h
  rw [show b = 48 + (b - 48) by omega]
  exact hk _ (by omega)

theorem HeadNotNum.noLeadingDigit {R : Bytes} (h : HeadNotNum R) : NoLeadingDigit R := by
  intro b r hbr
  rw [Bool.eq_false_iff]
  intro hd
  have := isDigit_numberChar b hd
  rw [h b r hbr] at this
  cases this

theorem HeadNotNum.append {r : Bytes} (h : HeadNotNum r) (hne : 1 ≤ r.length) (R : Bytes) : HeadNotNum (r ++ R) := by
  intro c x hx
  cases r with
  | nil => simp at hne
  | cons c' x' => simp only [List.cons_append, List.cons.injEq] at hx; exact hx.1 ▸ h c' x' rfl

theorem burnNumber_chars (r R : Bytes) (h : ∀ c ∈ r, numberChars.contains c = true) (hR : HeadNotNum R) :
    burnNumber (r ++ R) = R := by
  induction r with
  | nil =>
    cases R with
    | nil => rfl
    | cons b x => simp only [List.nil_append, burnNumber, hR b x rfl]; rfl
  | cons c r ih =>
    simp only [List.cons_append, burnNumber, h c (by simp), if_true]
    exact ih (fun y hy => h y (by simp [hy]))

/-- no number runs into a separator, nor into what follows it if that is no number character -/
theorem headNotNum_sepws (w : Bytes) (hw : SepWs w) (b : Nat) (r : Bytes) (hb : numberChars.contains b = false) :
    HeadNotNum (w ++ b :: r) := by
  intro c x hx
  cases w with
  | nil =>
    simp only [List.nil_append, List.cons.injEq] at hx
    exact hx.1 ▸ hb
  | cons c' w' =>
    simp only [List.cons_append, List.cons.injEq] at hx
    rw [← hx.1]
    rcases hw c' (by simp) with h | rfl
    · rcases (isWs_iff c').mp h with rfl | rfl | rfl | rfl <;> decide
    · decide

theorem JT.val_head {d : Nat} {t : Bytes} (h : JT .val d t) : ∃ b r, t = b :: r ∧ isWs b = false ∧ b ≠ 44 ∧ b ≠ 93 := by
  cases h with
  | str s _ => exact ⟨34, _, rfl, by decide, by decide, by decide⟩
  | num n hn =>
    obtain ⟨b, r, rfl, hb, _⟩ := hn
    have hb : b = 45 ∨ 48 ≤ b ∧ b ≤ 57 := hb.imp_right (isDigit_iff b).mp
    exact ⟨b, r, rfl, (isWs_eq_false b).mpr (by omega), by omega, by omega⟩
  | tru => exact ⟨116, _, rfl, by decide, by decide, by decide⟩
  | fls => exact ⟨102, _, rfl, by decide, by decide, by decide⟩
  | nul => exact ⟨110, _, rfl, by decide, by decide, by decide⟩
  | arr t _ => exact ⟨91, _, rfl, by decide, by decide, by decide⟩
  | obj t _ => exact ⟨123, _, rfl, by decide, by decide, by decide⟩

theorem JT.length_pos {k : JK} {d : Nat} {t : Bytes} (h : JT k d t) : 1 ≤ t.length := by
  cases h with
  | num n hn => obtain ⟨b, r, rfl, _, _⟩ := hn; simp
  | eCons w v rest _ hv _ _ =>
    obtain ⟨b, r, rfl, _⟩ := hv.val_head
    rw [List.length_append, List.cons_append, List.length_cons]
    exact Nat.le_trans (Nat.le_add_left 1 _) (Nat.le_add_left _ _)
  | str | tru | fls | nul | arr | obj | eEnd | mEnd => simp
  | mCons =>
    rw [List.length_append, List.length_cons]
    exact Nat.le_trans (Nat.le_add_left 1 _) (Nat.le_add_left _ _)

/-- how far below the array or object its elements nest: `burn_array`/`burn_object` at depth `dp` call `burn_value` at `dp + 1` -/
def kOff : JK → Nat
  | .val => 0
  | _ => 1

/-- the motive of the induction over `JT`, which is mutual: one predicate over the three skippers -/
def BurnsTo (k : JK) (t : Bytes) (dp fuel : Nat) (R : Bytes) : Prop :=
  match k with
  | .val => burnValue fuel (t ++ R) dp = .ok R
  | .elems => burnArray fuel (t ++ R) dp = .ok R
  | .members => burnObject fuel (t ++ R) dp = .ok R

theorem depth_ok {dp : Nat} (hd : dp ≤ 64) : ¬ dp > MAX_BURN_DEPTH := Nat.not_lt.mpr hd

theorem burnValue_num (f b : Nat) (rest : Bytes) (dp : Nat) (hd : dp ≤ 64) (hb : b = 45 ∨ isDigit b = true) :
    burnValue (f + 1) (b :: rest) dp = .ok (burnNumber (b :: rest)) := by
  rw [burnValue, if_neg (depth_ok hd)]
  rcases hb with rfl | hb
  · rfl
  · -- a digit is none of the seven other first characters: `"` and `-` lie below the digits, the rest above
    obtain ⟨h48, h57⟩ := (isDigit_iff b).mp hb
    have lo : ∀ {c}, c < 48 → b ≠ c := fun h => Nat.ne_of_gt (Nat.lt_of_lt_of_le h h48)
    have hi : ∀ {c}, 57 < c → b ≠ c := fun h => Nat.ne_of_lt (Nat.lt_of_le_of_lt h57 h)
    rw [if_neg (lo (by decide)), if_neg (hi (by decide)), if_neg (hi (by decide)), if_neg (hi (by decide)),
      if_neg (hi (by decide)), if_neg (hi (by decide)), if_neg (lo (by decide)), if_pos hb]

/-- two non-empty parts of a text are each shorter than it: the fuel for the whole covers either with one to spare -/
theorem fuel_parts {x y n f : Nat} (hx : 1 ≤ x) (hy : 1 ≤ y) (hn : x + y ≤ n) (hf : n ≤ f) :
    ∃ g, f = g + 1 ∧ x ≤ g ∧ y ≤ g := ⟨f - 1, by omega⟩

/-- induction on the text; fuel as `f + 1` with `t.length ≤ f`, so that the outermost call always unfolds -/
theorem burn_jt {k : JK} {d : Nat} {t : Bytes} (h : JT k d t) :
    ∀ (dp f : Nat) (R : Bytes), dp + kOff k + d ≤ 64 → t.length ≤ f →
      (k = .val → HeadNotNum R) → BurnsTo k t dp (f + 1) R := by
  induction h with
  | str s hs =>
    intro dp f R hd _ _
    simp only [BurnsTo, List.cons_append, List.append_assoc, List.nil_append]
    rw [burnValue, if_neg (depth_ok (by omega))]
    exact burnString_body s R hs
  | num n hn =>
    intro dp f R hd _ hR
    obtain ⟨b, r, rfl, hb, hr⟩ := hn
    have hbn : numberChars.contains b = true := by
      rcases hb with rfl | hb
      · decide
      · exact isDigit_numberChar b hb
    have hbn' := burnNumber_chars (b :: r) R (List.forall_mem_cons.mpr ⟨hbn, hr⟩) (hR rfl)
    exact (burnValue_num f b (r ++ R) dp (by omega) hb).trans (congrArg Outcome.ok hbn')
  | tru | fls | nul =>
    intro dp f R hd _ _
    simp only [BurnsTo, List.cons_append, List.nil_append]
    rw [burnValue, if_neg (depth_ok (by omega))]
    rfl
  | arr t _ ih | obj t _ ih =>
    intro dp f R hd hf _
    obtain ⟨f, rfl⟩ := exists_eq_add_one_of_le hf
    simp only [BurnsTo, List.cons_append]
    rw [burnValue, if_neg (depth_ok (by omega))]
    exact ih dp f R (by simp only [kOff]; omega) (Nat.le_of_succ_le_succ hf) nofun
  | eEnd w hw =>
    intro dp f R _ _ _
    simp only [BurnsTo, List.append_assoc, List.cons_append, List.nil_append, burnArray]
    rw [eatWsC_sepws w 93 R hw (by decide) (by decide)]
    simp
  | eCons w v rest hw hv hrest hnn ihv ihr =>
    intro dp f R hd hf _
    obtain ⟨b, r, rfl, hb1, hb2, hb3⟩ := hv.val_head
    have hlr := hrest.length_pos
    obtain ⟨f, rfl, hfv, hfr⟩ := fuel_parts (x := (b :: r).length) (Nat.le_add_left 1 _) hlr
      (by simp only [List.length_append]; omega) hf
    have h1 := ihv (dp + 1) f (rest ++ R) hd hfv fun _ => hnn.append hlr R
    have h2 := ihr dp f R hd hfr nofun
    simp only [BurnsTo] at h1 h2
    simp only [BurnsTo, List.append_assoc, List.cons_append, burnArray]
    rw [eatWsC_sepws w b _ hw hb1 hb2]
    simp only [if_neg hb3]
    simp only [List.cons_append] at h1
    rw [h1]
    exact h2
  | mEnd w hw =>
    intro dp f R _ _ _
    simp only [BurnsTo, List.append_assoc, List.cons_append, List.nil_append, burnObject]
    rw [eatWsC_sepws w 125 R hw (by decide) (by decide)]
    simp
  | mCons w k w1 w2 v rest hw hk hw1 hw2 hv hrest hnn ihv ihr =>
    intro dp f R hd hf _
    obtain ⟨b, r, rfl, hb1, _⟩ := hv.val_head
    have hlr := hrest.length_pos
    obtain ⟨f, rfl, hfv, hfr⟩ := fuel_parts (x := (b :: r).length) (Nat.le_add_left 1 _) hlr
      (by simp only [List.length_append, List.length_cons]; omega) hf
    have h1 := ihv (dp + 1) f (rest ++ R) hd hfv fun _ => hnn.append hlr R
    have h2 := ihr dp f R hd hfr nofun
    simp only [BurnsTo] at h1 h2
    simp only [BurnsTo, List.append_assoc, List.cons_append, burnObject]
    rw [eatWsC_sepws w 34 _ hw (by decide) (by decide)]
    simp only [show (34 : Nat) ≠ 125 from by decide, if_false, verifyChar, if_true]
    rw [burnString_body k _ hk]
    simp only []
    rw [eatColon_ws w1 w2 b _ hw1 hw2 hb1]
    simp only [List.cons_append] at h1
    simp only [h1]
    exact h2

theorem burnValue_json (d : Nat) (v R : Bytes) (hv : JT .val d v) (hd : d ≤ MAX_BURN_DEPTH)
    (hR : HeadNotNum R) (fuel : Nat) (hf : v.length + 1 ≤ fuel) : burnValue fuel (v ++ R) 0 = .ok R := by
  obtain ⟨f, rfl⟩ := exists_eq_add_one_of_le hf
  exact burn_jt hv 0 f R (by unfold MAX_BURN_DEPTH at hd; simp only [kOff]; omega) (by omega) (fun _ => hR)

/-- `burn_key_and_value`: a whole member, any key, any whitespace round the colon -/
theorem burnKeyValue_json (d : Nat) (k w1 w2 v R : Bytes) (hk : StrBody k) (h1 : AllWs w1) (h2 : AllWs w2)
    (hv : JT .val d v) (hd : d ≤ MAX_BURN_DEPTH) (hR : HeadNotNum R) :
    burnKeyValue (34 :: (k ++ 34 :: (w1 ++ 58 :: (w2 ++ (v ++ R))))) 0 = .ok R := by
  obtain ⟨b, r, rfl, hb1, _⟩ := hv.val_head
  unfold burnKeyValue
  simp only [verifyChar_cons]
  rw [burnString_body k _ hk]
  simp only []
  rw [List.cons_append, eatColon_ws w1 w2 b _ h1 h2 hb1]
  have := burnValue_json d (b :: r) R hv hd hR (burnFuel (b :: (r ++ R))) (by
    unfold burnFuel; simp only [List.length_cons, List.length_append]; omega)
  simpa using this

/-- the parser's test for a known key, `startsWith (key ++ [34])`, fails on every other key's text: the two differ at a
character, or at the closing quote of the shorter -/
theorem startsWith_other_key (key kb rest : Bytes) (hkey : ∀ b ∈ key, b ≠ 34 ∧ b ≠ 92) (hk : StrBody kb)
    (hne : kb ≠ key) : startsWith (key ++ [34]) (kb ++ 34 :: rest) = false := by
  unfold startsWith
  rw [beq_eq_false_iff_ne]
  intro h
  induction key generalizing kb with
  | nil =>
    cases hk with
    | nil => exact hne rfl
    | raw b r h1 _ _ => simp at h; exact h1 h
    | esc c r _ => simp at h
  | cons a key ih =>
    cases hk with
    | nil =>
      simp only [List.nil_append, List.cons_append, List.length_cons, List.take_succ_cons, List.cons.injEq] at h
      exact (hkey a (by simp)).1 h.1.symm
    | raw b r h1 h2 hr =>
      simp only [List.cons_append, List.length_cons, List.take_succ_cons, List.cons.injEq] at h
      obtain ⟨rfl, h'⟩ := h
      exact ih r (fun x hx => hkey x (by simp [hx])) hr (fun heq => hne (by rw [heq])) (by
        simpa using h')
    | esc c r _ =>
      simp only [List.cons_append, List.length_cons, List.take_succ_cons, List.cons.injEq] at h
      exact (hkey a (by simp)).2 h.1.symm

end Pocket
