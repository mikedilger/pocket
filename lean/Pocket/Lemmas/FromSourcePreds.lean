import Pocket.Src.Preds
import Pocket.Model.Utf8
import Pocket.Model.ParseFilter
import Pocket.Model.Store
import Pocket.Lemmas.ListAux
/- Three predicates of the source (`Pocket/Src/Preds.lean`, regenerated from /repo on every check run) against the model's.  Proved
by arithmetic: any equivalent respelling in the source still proves. -/
namespace Pocket

/-- the characters `json_escape` copies unescaped (`is_safe_char`) are the model's `isSafeChar` -/
theorem safe_char_from_source (c : Nat) : Src.isSafeChar c = isSafeChar c := by
  rw [Bool.eq_iff_iff]; simp [Src.isSafeChar, isSafeChar] <;> omega

/-- which filter members are tag constraints: the test on the byte after `#` in `parse_json_filter` is the model's `isLetter` -/
theorem tag_member_letter_from_source (b : Nat) : Src.tagMemberLetter b = isLetter b := by
  rw [Bool.eq_iff_iff]; simp [Src.tagMemberLetter, isLetter] <;> omega

/-- the scraping allowance of `find_events` (`maxtime = until.min(now)`, `allow = allow_scraping || limit <= … ||
maxtime.saturating_sub(since) < …`) is `scrapeAllowed` -/
theorem scrape_gate_from_source (f : FilterRec) (allow : Bool) (allowLimit allowSecs now : Nat) :
    Src.scrapeAllow allow f.limit allowLimit allowSecs f.since f.until now = scrapeAllowed f allow allowLimit allowSecs now := by
  rw [Src.scrapeAllow, scrapeAllowed, ite_lt_eq_min]

end Pocket
