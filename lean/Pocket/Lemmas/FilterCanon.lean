import Pocket.Lemmas.FilterOrder
import Pocket.Lemmas.FilterPerm
import Pocket.Spec.FilterText
/- `Filter::from_json ∘ Filter::as_json = id` (C07): what `as_json` writes for a canonical filter is the text of one member
list (`canonMems`, one comma between members, no whitespace), which is accepted and denotes the filter; the round trip is
`parseFilter_any_order` on it. -/
namespace Pocket

theorem jsonEscape_letter (l : Nat) (hl : isLetter l = true) : jsonEscape [l] = .ok [l] := by
  have h1 : l < 128 := by unfold isLetter at hl; simp at hl; omega
  have h2 : isSafeChar l = true := by
    unfold isLetter at hl; unfold isSafeChar; simp at hl ⊢; omega
  simp [jsonEscape, jsonEscapeF, nextCodePoint, h1, h2]

theorem ftagsJson_cons_inv (l : Nat) (vs : List Bytes) (ts : TagsRec) (first : Bool) (p : Bytes) (f' : Bool)
    (hl : isLetter l = true) (h : ftagsJson (([l] :: vs) :: ts) first = .ok (p, f')) :
    ∃ vj r, ftagValuesJson vs true = .ok vj ∧ ftagsJson ts false = .ok (r, f') ∧
      p = ((if first then [] else [44]) ++ 34 :: (35 :: l :: 34 :: 58 :: 91 :: (vj ++ [93]))) ++ r := by
  unfold ftagsJson at h
  simp only [jsonEscape_letter l hl] at h
  split at h
  · rename_i en vj r f'' he hv hr
    simp only [Outcome.ok.injEq, Prod.mk.injEq] at h he
    subst he
    obtain ⟨rfl, rfl⟩ := h
    exact ⟨vj, r, hv, hr, by simp⟩
  · cases h
  · cases h
  · cases h
  · cases h

theorem ftagsJson_length (ts : TagsRec) (hok : ∀ t ∈ ts, FTagOk t) (first : Bool) (p : Bytes) (f' : Bool)
    (h : ftagsJson ts first = .ok (p, f')) : ts.length ≤ p.length := by
  induction ts generalizing first p with
  | nil => simp
  | cons t ts ih =>
    obtain ⟨l, vs, rfl, hl, _, _⟩ := hok t (by simp)
    obtain ⟨vj, r, _, hr, rfl⟩ := ftagsJson_cons_inv l vs ts first p f' hl h
    have := ih (fun t' ht' => hok t' (by simp [ht'])) false r hr
    simp; omega

theorem ftagsJson_ok (ts : TagsRec) (hok : ∀ t ∈ ts, FTagOk t) (first : Bool) :
    ∃ p f', ftagsJson ts first = .ok (p, f') := by
  induction ts generalizing first with
  | nil => exact ⟨[], first, rfl⟩
  | cons t ts ih =>
    obtain ⟨l, vs, rfl, hl, hu, _⟩ := hok t (by simp)
    obtain ⟨vj, hvj⟩ := ftagValuesJson_ok vs hu true
    obtain ⟨r, f', hr⟩ := ih (fun t' ht' => hok t' (by simp [ht'])) false
    simp only [ftagsJson, jsonEscape_letter l hl, hvj, hr]
    exact ⟨_, _, rfl⟩

theorem filterJson_ok (f : FilterRec) (hc : FilterCanon f) : ∃ txt, filterJson f = .ok txt := by
  obtain ⟨p, f', hp⟩ := ftagsJson_ok f.tags hc.tagsOk (f.ids.isEmpty && f.authors.isEmpty && f.kinds.isEmpty)
  unfold filterJson
  simp only [hp]
  exact ⟨_, rfl⟩

/-- the members with `as_json`'s separators: one comma before every member but the first, no whitespace -/
def canonSpecs : List FMem → Bool → List FSpec
  | [], _ => []
  | m :: ms, first => ⟨if first then [] else [44], [], [], m⟩ :: canonSpecs ms false

theorem canonSpecs_map (ms : List FMem) (first : Bool) : (canonSpecs ms first).map (·.m) = ms := by
  induction ms generalizing first with
  | nil => rfl
  | cons m ms ih => simp [canonSpecs, ih]

theorem canonSpecs_wsOk (ms : List FMem) (first : Bool) : ∀ x ∈ canonSpecs ms first, x.WsOk := by
  induction ms generalizing first with
  | nil => intro x hx; cases hx
  | cons m ms ih =>
    intro x hx
    rcases List.mem_cons.mp hx with rfl | hx
    · exact ⟨sepWs_comma first, nofun, nofun⟩
    · exact ih false x hx

theorem flText_canon_append (a b : List FMem) (first : Bool) (R : Bytes) :
    flText (canonSpecs (a ++ b) first) R =
      flText (canonSpecs a first) (flText (canonSpecs b (first && a.isEmpty)) R) := by
  induction a generalizing first with
  | nil => simp [canonSpecs, flText]
  | cons m a ih => simp [canonSpecs, flText, ih]

theorem flText_canon_opt (c : Prop) [Decidable c] (m : FMem) (first : Bool) (R : Bytes) :
    flText (canonSpecs (if c then [] else [m]) first) R =
      (if c then [] else (if first then [] else [44]) ++ fmemText m [] []) ++ R := by
  split <;> simp [canonSpecs, flText]

/-- the value text of a tag constraint (`[]` only where `as_json` fails) -/
def valuesText (vs : List Bytes) : Bytes :=
  match ftagValuesJson vs true with
  | .ok vj => vj
  | _ => []

def tagMem (t : List Bytes) : FMem := .tag (tagLetter t) t.tail (valuesText t.tail)

/-- the members `as_json` writes, in its order; a member holding the default is left out -/
def canonMems (f : FilterRec) : List FMem :=
  (if f.ids.isEmpty then [] else [.ids f.ids]) ++
  ((if f.authors.isEmpty then [] else [.authors f.authors]) ++
  ((if f.kinds.isEmpty then [] else [.kinds f.kinds]) ++
  (f.tags.map tagMem ++
  ((if f.limit = U32MAX then [] else [.limit f.limit]) ++
  ((if f.since = 0 then [] else [.since f.since]) ++
  (if f.until = U64MAX then [] else [.until f.until]))))))

theorem ftagsJson_flText (ts : TagsRec) (hok : ∀ t ∈ ts, FTagOk t) (first : Bool) (p : Bytes) (f' : Bool)
    (h : ftagsJson ts first = .ok (p, f')) (R : Bytes) :
    p ++ R = flText (canonSpecs (ts.map tagMem) first) R ∧ f' = (first && ts.isEmpty) := by
  induction ts generalizing first p with
  | nil =>
    simp only [ftagsJson, Outcome.ok.injEq, Prod.mk.injEq] at h
    obtain ⟨rfl, rfl⟩ := h
    simp [canonSpecs, flText]
  | cons t ts ih =>
    obtain ⟨l, vs, rfl, hl, _, _⟩ := hok t (by simp)
    obtain ⟨vj, r, hv, hr, rfl⟩ := ftagsJson_cons_inv l vs ts first p f' hl h
    obtain ⟨ih1, ih2⟩ := ih (fun t' ht' => hok t' (by simp [ht'])) false r hr
    refine ⟨?_, by simpa using ih2⟩
    simp [canonSpecs, flText, tagMem, tagLetter, valuesText, hv, fmemText, fKey, fVal, ← ih1]

theorem filterJson_flText (f : FilterRec) (htok : ∀ t ∈ f.tags, FTagOk t) (txt : Bytes)
    (ht : filterJson f = .ok txt) : txt = 123 :: flText (canonSpecs (canonMems f) true) [125] := by
  unfold filterJson at ht
  dsimp only at ht
  split at ht
  · rename_i p4 first4 htags
    simp only [Outcome.ok.injEq] at ht
    subst ht
    have h4 := fun R => ftagsJson_flText f.tags htok _ p4 first4 htags R
    simp only [canonMems, flText_canon_append, flText_canon_opt, isEmpty_ite_singleton, Bool.true_and, Bool.decide_eq_true,
      ← (h4 _).1, (h4 []).2, fmemText, fKey, fVal]
    simp
  · cases ht
  · cases ht

/-- a member's effect on the filter itself (`FAbs.apply` without the "seen" information) -/
def FilterRec.setMem (g : FilterRec) : FMem → FilterRec
  | .ids l => { g with ids := l }
  | .authors l => { g with authors := l }
  | .kinds l => { g with kinds := l }
  | .since n => { g with since := n }
  | .until n => { g with «until» := n }
  | .limit n => { g with limit := satLimit n }
  | .tag l vs _ => { g with tags := g.tags ++ [[l] :: vs] }
  | .unknown _ _ => g

theorem toFilter_run (ms : List FMem) (A : FAbs) : (A.run ms).toFilter = ms.foldl FilterRec.setMem A.toFilter := by
  induction ms generalizing A with
  | nil => rfl
  | cons m ms ih =>
    simp only [FAbs.run, List.foldl_cons] at ih ⊢
    rw [ih]
    cases m <;> simp [FAbs.apply, FAbs.toFilter, FilterRec.setMem]

/-- a member that is left out exactly when writing it would change nothing -/
theorem foldl_setMem_opt (c : Prop) [Decidable c] (g : FilterRec) (m : FMem) (rest : List FMem)
    (h : c → g.setMem m = g) :
    ((if c then [] else [m]) ++ rest).foldl FilterRec.setMem g = rest.foldl FilterRec.setMem (g.setMem m) := by
  split
  · rw [h ‹c›]; rfl
  · rfl

theorem foldl_setMem_tags (ts : TagsRec) (hok : ∀ t ∈ ts, FTagOk t) (g : FilterRec) (rest : List FMem) :
    (ts.map tagMem ++ rest).foldl FilterRec.setMem g = rest.foldl FilterRec.setMem { g with tags := g.tags ++ ts } := by
  induction ts generalizing g with
  | nil => simp
  | cons t ts ih =>
    obtain ⟨l, vs, rfl, _⟩ := hok t (by simp)
    rw [List.map_cons, List.cons_append, List.foldl_cons, ih (fun t' ht' => hok t' (by simp [ht']))]
    simp [FilterRec.setMem, tagMem, tagLetter]

theorem canonMems_denote (f : FilterRec) (hc : FilterCanon f) : (({} : FAbs).run (canonMems f)).toFilter = f := by
  have hlim : satLimit f.limit = f.limit := by
    have := hc.sized.limit; unfold satLimit U32MAX; split <;> omega
  rw [toFilter_run, canonMems, ← List.append_nil (if f.until = U64MAX then [] else [FMem.until f.until]),
    foldl_setMem_opt _ _ _ _ (by intro h; rw [List.isEmpty_iff.mp h]; rfl),
    foldl_setMem_opt _ _ _ _ (by intro h; rw [List.isEmpty_iff.mp h]; rfl),
    foldl_setMem_opt _ _ _ _ (by intro h; rw [List.isEmpty_iff.mp h]; rfl),
    foldl_setMem_tags _ hc.tagsOk,
    foldl_setMem_opt _ _ _ _ (by intro h; rw [h]; rfl),
    foldl_setMem_opt _ _ _ _ (by intro h; rw [h]; rfl),
    foldl_setMem_opt _ _ _ _ (by intro h; rw [h]; rfl)]
  simp only [List.foldl_nil, FAbs.toFilter, FilterRec.setMem, hlim, Option.getD_none, Option.map_none, List.map_nil,
    List.nil_append]

theorem valuesText_ok (vs : List Bytes) (hu : ∀ v ∈ vs, IsUtf8 v) : ftagValuesJson vs true = .ok (valuesText vs) := by
  obtain ⟨vj, h⟩ := ftagValuesJson_ok vs hu true
  simp [valuesText, h]

theorem canonMems_ok (f : FilterRec) (hc : FilterCanon f) : ∀ m ∈ canonMems f, FMemOk m := by
  intro m hm
  have hs := hc.sized
  simp only [canonMems, List.mem_append, mem_ite_singleton, List.mem_map] at hm
  rcases hm with ⟨_, rfl⟩ | ⟨_, rfl⟩ | ⟨_, rfl⟩ | ⟨t, ht, rfl⟩ | ⟨_, rfl⟩ | ⟨_, rfl⟩ | ⟨_, rfl⟩
  · exact fun x hx => ⟨hs.ids x hx, hc.idb x hx⟩
  · exact fun x hx => ⟨hs.authors x hx, hc.aub x hx⟩
  · exact hs.kinds
  · obtain ⟨l, vs, rfl, hl, hu, hn⟩ := hc.tagsOk t ht
    exact ⟨hl, hu, valuesText_ok vs hu, hn⟩
  · have := hs.limit; simp only [FMemOk]; omega
  · exact hs.since
  · exact hs.until

theorem canonMems_slots (f : FilterRec) (hc : FilterCanon f) : ((canonMems f).filterMap slot).Nodup := by
  have htags : (f.tags.map tagMem).filterMap slot = (f.tags.map tagLetter).map (fun l => 6 + l) := by
    induction f.tags with
    | nil => rfl
    | cons t ts ih => simp [tagMem, slot, ih]
  have hsub : ((canonMems f).filterMap slot).Sublist
      ([0, 1, 2] ++ ((f.tags.map tagLetter).map (fun l => 6 + l) ++ [5, 3, 4])) := by
    simp only [canonMems, List.filterMap_append, filterMap_ite_singleton, slot, Option.toList, htags]
    exact (ite_singleton_sublist _ 0).append <| (ite_singleton_sublist _ 1).append <|
      (ite_singleton_sublist _ 2).append <| (List.Sublist.refl _).append <|
      (ite_singleton_sublist _ 5).append <| (ite_singleton_sublist _ 3).append (ite_singleton_sublist _ 4)
  -- the six member slots lie below 6, those of the letters from 6 up
  refine hsub.nodup ?_
  rw [(List.perm_append_comm.append_left [0, 1, 2]).nodup_iff, ← List.append_assoc]
  refine List.nodup_append.mpr ⟨by decide, List.Pairwise.map _ (fun a b h => by omega) hc.letters, fun a ha b hb => ?_⟩
  obtain ⟨l, _, rfl⟩ := List.mem_map.mp hb
  simp only [List.cons_append, List.nil_append, List.mem_cons, List.not_mem_nil, or_false] at ha
  omega

theorem parseFilter_filterJson (f : FilterRec) (hc : FilterCanon f) (txt : Bytes)
    (ht : filterJson f = .ok txt) (rest buf : Bytes) (hbuf : (encodeFilter f).length ≤ buf.length) :
    parseFilter (txt ++ rest) buf =
      .ok (txt.length, (encodeFilter f).length, encodeFilter f ++ buf.drop (encodeFilter f).length) := by
  have hany := parseFilter_any_order (canonSpecs (canonMems f) true) (canonSpecs_wsOk _ _) (canonMems f) (canonSpecs_map _ _)
    ((FAbs.accepts_empty_iff _).mpr ⟨canonMems_ok f hc, canonMems_slots f hc⟩) [] [] rest buf nofun nofun f (canonMems_denote f hc) hc.sized hbuf
  -- the text parsed is `txt ++ rest`: what is consumed, its length less `rest`'s, is `txt.length`
  have htxt : 123 :: flText (canonSpecs (canonMems f) true) (125 :: rest) = txt ++ rest := by
    rw [filterJson_flText f hc.tagsOk txt ht, List.cons_append, flText_append]; rfl
  rw [List.nil_append, List.nil_append, htxt, List.length_append, Nat.add_sub_cancel] at hany
  exact hany

end Pocket
