import Pocket.Src.Consts
import Pocket.Model.Escape
import Pocket.Model.JsonParse
import Pocket.Model.Filter
import Pocket.Model.Store
import Pocket.Lemmas.Keys
/- The named constants of the source (`Pocket/Src/Consts.lean`, regenerated from /repo on every check run) against the values the
model uses. -/
namespace Pocket

/-- `MAX_BURN_DEPTH` (json_parse.rs) is the model's nesting bound; the table of tag-member positions in `parse_json_filter` has 52 slots,
one per letter -/
theorem parser_bounds_from_source : Src.c_json_parse_MAX_BURN_DEPTH = [MAX_BURN_DEPTH] ∧ Src.startTagsLen = 52 := by decide

/-- the characters `json_escape.rs` names are escaped by `escapePiece` as a backslash and the letter JSON assigns them (quote and
backslash: themselves) -/
theorem escape_constants_from_source :
    (∀ q ∈ Src.c_json_escape_BACKSLASH, ∀ c ∈ Src.c_json_escape_BACKSPACE, escapePiece c = some [q, 98]) ∧
    (∀ q ∈ Src.c_json_escape_BACKSLASH, ∀ c ∈ Src.c_json_escape_TAB, escapePiece c = some [q, 116]) ∧
    (∀ q ∈ Src.c_json_escape_BACKSLASH, ∀ c ∈ Src.c_json_escape_LINEFEED, escapePiece c = some [q, 110]) ∧
    (∀ q ∈ Src.c_json_escape_BACKSLASH, ∀ c ∈ Src.c_json_escape_FORMFEED, escapePiece c = some [q, 102]) ∧
    (∀ q ∈ Src.c_json_escape_BACKSLASH, ∀ c ∈ Src.c_json_escape_CR, escapePiece c = some [q, 114]) ∧
    (∀ q ∈ Src.c_json_escape_BACKSLASH, ∀ c ∈ Src.c_json_escape_QUOTE, escapePiece c = some [q, c]) ∧
    (∀ q ∈ Src.c_json_escape_BACKSLASH, escapePiece q = some [q, q]) := by decide

theorem utf8_constants_from_source :
    (∀ m ∈ Src.c_utf8_MAX_ONE_B, (utf8Bytes (m - 1)).length = 1 ∧ ∀ t ∈ Src.c_utf8_TAG_TWO_B, ∀ c ∈ Src.c_utf8_TAG_CONT, utf8Bytes m = [t + 2, c]) ∧
    (∀ m ∈ Src.c_utf8_MAX_TWO_B, (utf8Bytes (m - 1)).length = 2 ∧ ∀ t ∈ Src.c_utf8_TAG_THREE_B, ∀ c ∈ Src.c_utf8_TAG_CONT, utf8Bytes m = [t, c + 32, c]) ∧
    (∀ m ∈ Src.c_utf8_MAX_THREE_B, (utf8Bytes (m - 1)).length = 3 ∧ ∀ t ∈ Src.c_utf8_TAG_FOUR_B, ∀ c ∈ Src.c_utf8_TAG_CONT, utf8Bytes m = [t, c + 16, c, c]) ∧
    Src.c_utf8_CONT_MASK = [63] := by decide

/-- `ARRAYS_OFFSET` and the sizes of an id, a pubkey and a kind in `filter.rs` are those of `filterSize`; the six header offsets its
accessors read at are 4, 6, 8, 12, 16, 24, the literals of `filterDecode` -/
theorem filter_layout_from_source :
    (∀ a ∈ Src.c_filter_ARRAYS_OFFSET, filterSize 0 0 0 0 = a) ∧
    (∀ s ∈ Src.c_filter_ID_SIZE, filterSize 1 0 0 0 = filterSize 0 0 0 0 + s) ∧
    (∀ s ∈ Src.c_filter_PUBKEY_SIZE, filterSize 0 1 0 0 = filterSize 0 0 0 0 + s) ∧
    (∀ s ∈ Src.c_filter_KIND_SIZE, filterSize 0 0 1 0 = filterSize 0 0 0 0 + s) ∧
    Src.c_filter_NUM_IDS_OFFSET = [4] ∧ Src.c_filter_NUM_AUTHORS_OFFSET = [6] ∧ Src.c_filter_NUM_KINDS_OFFSET = [8] ∧
    Src.c_filter_LIMIT_OFFSET = [12] ∧ Src.c_filter_SINCE_OFFSET = [16] ∧ Src.c_filter_UNTIL_OFFSET = [24] := by decide

/-- every `PADLEN` of the key builders in `lmdb/mod.rs` is the length `pad182` pads or cuts tag values to -/
theorem index_padding_from_source (v : Bytes) : ∀ p ∈ Src.c_lmdb_PADLEN, (pad182 v).length = p := by
  have : ∀ p ∈ Src.c_lmdb_PADLEN, p = 182 := by decide
  intro p hp
  rw [pad182_length, this p hp]

theorem map_chunks_from_source :
    ∀ c ∈ Src.c_event_store_EVENT_MAP_CHUNK_debug ++ Src.c_event_store_EVENT_MAP_CHUNK_release, c % 8 = 0 ∧ 8 ≤ c := by decide

end Pocket
