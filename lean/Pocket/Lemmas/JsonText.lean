import Pocket.Lemmas.Spelling
import Pocket.Lemmas.Ws
import Pocket.Lemmas.ParseWF
import Pocket.Spec.JsonText
/- The tags array of an event in any JSON spelling, and its content string (C01, C02; the grammar `TagsText`, `Spec/JsonText.lean`):
`read_tags_array` (both passes: `count_tags`/`burn_tag`, then `read_tag`) reads every such text back to the tag section
`from_parts` writes. -/
namespace Pocket

theorem StrsRest.length {ss : List Bytes} {r : Bytes} (h : StrsRest ss r) : ss.length + 1 ≤ r.length := by
  induction h with
  | close w _ => simp
  | more s ss w w' e r _ _ _ _ ih => simp only [List.length_cons, List.length_append]; omega

theorem TagsRest.length {ts : TagsRec} {r : Bytes} (h : TagsRest ts r) : ts.length + 1 ≤ r.length := by
  induction h with
  | close w _ => simp
  | more t ts w w' w'' tb r _ _ _ _ _ ih => simp only [List.length_cons, List.length_append]; omega

theorem TagBody.eatWs {t : List Bytes} {tb : Bytes} (h : TagBody t tb) (w : Bytes) (hw : AllWs w) (x : Bytes) :
    eatWs (w ++ (tb ++ x)) = tb ++ x := by
  cases h with
  | empty => exact eatWs_ws_keep w 93 x hw (by decide)
  | strs s ss e r _ _ => exact eatWs_ws_keep w 34 _ hw (by decide)

/-- a buffer with room for a string's entry (two length bytes, the string, what follows) has room for the two bytes, and
what `json_unescape` is then given holds the string -/
theorem room_str {o l r cap : Nat} (h : o + (2 + l + r) ≤ cap) : ¬ o + 2 > cap ∧ l ≤ cap - (o + 2) := by omega

theorem readTagStrs_text (ss : List Bytes) (s e r rest : Bytes) (he : Spells s e) (hr : StrsRest ss r)
    (outpos cap : Nat) (hcap : outpos + strsSize (s :: ss) ≤ cap) (fuel : Nat) (hf : ss.length + 1 ≤ fuel) :
    readTagStrs fuel (e ++ 34 :: (r ++ rest)) outpos cap = .ok (rest, s :: ss) := by
  induction hr generalizing s e outpos fuel with
  | close w hw =>
    obtain ⟨f, rfl⟩ := exists_eq_add_one_of_le hf
    simp only [strsSize] at hcap
    obtain ⟨h2, hl⟩ := room_str hcap
    unfold readTagStrs
    rw [if_neg h2, jsonUnescape_spells s e _ _ he hl]
    dsimp only
    rw [drop_len_succ]
    simp only [List.append_assoc, List.cons_append, List.nil_append]
    rw [eatWs_ws_keep w 93 _ hw (by decide)]
    simp
  | more s2 ss2 w w' e2 r2 hw hw' he2 _ ih =>
    obtain ⟨f, rfl⟩ := exists_eq_add_one_of_le hf
    simp only [strsSize] at hcap
    obtain ⟨h2, hl⟩ := room_str hcap
    unfold readTagStrs
    rw [if_neg h2, jsonUnescape_spells s e _ _ he hl]
    dsimp only
    rw [drop_len_succ]
    simp only [List.append_assoc, List.cons_append]
    rw [eatWs_ws_keep w 44 _ hw (by decide)]
    simp only [if_true]
    rw [eatWs_ws_keep w' 34 _ hw' (by decide)]
    have ih' := ih s2 e2 he2 (outpos + 2 + s.length) (by simp only [strsSize]; omega) f (Nat.le_of_succ_le_succ hf)
    simp only [verifyChar, if_true, ih']

theorem readTag_text (t : List Bytes) (tb rest : Bytes) (h : TagBody t tb) (outpos cap : Nat)
    (hcap : outpos + tagSize t ≤ cap) : readTag (tb ++ rest) outpos cap = .ok (rest, t) := by
  cases h with
  | empty =>
    simp only [tagSize, strsSize] at hcap
    simp only [List.cons_append, List.nil_append, readTag, if_true, if_neg (show ¬ cap < outpos + 2 by omega)]
  | strs s ss e r he hr =>
    simp only [tagSize] at hcap
    have hlen := hr.length
    simp only [List.append_assoc, List.cons_append]
    simp only [readTag, show (34 : Nat) ≠ 93 from by decide, if_false, verifyChar, if_true]
    exact readTagStrs_text ss s e r rest he hr (outpos + 2) cap (by omega) _ (by
      simp only [List.length_append, List.length_cons]; omega)

theorem burnTagLoop_text (ss : List Bytes) (r rest : Bytes) (hr : StrsRest ss r) (fuel : Nat) (hf : ss.length + 1 ≤ fuel) :
    burnTagLoop fuel (eatWs (r ++ rest)) = .ok rest := by
  induction hr generalizing fuel with
  | close w hw =>
    obtain ⟨f, rfl⟩ := exists_eq_add_one_of_le hf
    simp only [List.append_assoc, List.cons_append, List.nil_append]
    rw [eatWs_ws_keep w 93 _ hw (by decide)]
    simp [burnTagLoop, verifyChar]
  | more s ss w w' e r2 hw hw' he _ ih =>
    obtain ⟨f, rfl⟩ := exists_eq_add_one_of_le hf
    simp only [List.append_assoc, List.cons_append]
    rw [eatWs_ws_keep w 44 _ hw (by decide)]
    have hb := burnString_spells s e (r2 ++ rest) he
    have ih' := ih f (Nat.le_of_succ_le_succ hf)
    simp only [burnTagLoop, if_true, eatWs_ws_keep w' 34 _ hw' (by decide), verifyChar, hb, ih']

theorem burnTag_text (t : List Bytes) (w tb rest : Bytes) (hw : AllWs w) (h : TagBody t tb) :
    burnTag (w ++ (tb ++ rest)) = .ok rest := by
  cases h with
  | empty =>
    simp [burnTag, eatWs_ws_keep w 93 rest hw (by decide)]
  | strs s ss e r he hr =>
    simp only [List.append_assoc, List.cons_append]
    have hb := burnString_spells s e (r ++ rest) he
    have hlen := hr.length
    have hl := burnTagLoop_text ss r rest hr ((r ++ rest).length + 1) (by simp only [List.length_append]; omega)
    simp only [burnTag, eatWs_ws_keep w 34 _ hw (by decide), show (34 : Nat) ≠ 93 from by decide, if_false, verifyChar,
      if_true, hb, hl]

theorem countTagsLoop_text (ts : TagsRec) (r rest : Bytes) (hr : TagsRest ts r) (n fuel : Nat) (hf : ts.length + 1 ≤ fuel) :
    countTagsLoop fuel (eatWs (r ++ rest)) n = .ok (ts.length + n) := by
  induction hr generalizing n fuel with
  | close w hw =>
    obtain ⟨f, rfl⟩ := exists_eq_add_one_of_le hf
    simp only [List.append_assoc, List.cons_append, List.nil_append]
    rw [eatWs_ws_keep w 93 _ hw (by decide)]
    simp [countTagsLoop]
  | more t ts w w' w'' tb r2 hw hw' hw'' htb _ ih =>
    obtain ⟨f, rfl⟩ := exists_eq_add_one_of_le hf
    simp only [List.append_assoc, List.cons_append]
    rw [eatWs_ws_keep w 44 _ hw (by decide)]
    have hbt := burnTag_text t w'' tb (r2 ++ rest) hw'' htb
    have ih' := ih (n + 1) f (Nat.le_of_succ_le_succ hf)
    simp only [countTagsLoop, show (44 : Nat) ≠ 93 from by decide, if_false, if_true,
      eatWs_ws_keep w' 91 _ hw' (by decide), verifyChar, hbt, ih', List.length_cons, Nat.add_assoc, Nat.add_comm 1 n]

theorem readTagsLoop_text (ts : TagsRec) (t : List Bytes) (tb r rest : Bytes) (htb : TagBody t tb) (hr : TagsRest ts r)
    (k n : Nat) (hk : ts.length + 1 + k = n) (outpos cap : Nat) (hcap : outpos + tagsBodySize (t :: ts) ≤ cap)
    (h16 : outpos + tagsBodySize (t :: ts) ≤ 65535) (fuel : Nat) (hf : ts.length + 1 ≤ fuel) :
    ∃ offs, readTagsLoop fuel (tb ++ (r ++ rest)) k n outpos cap = .ok (rest, offs, t :: ts) := by
  induction hr generalizing t tb k outpos fuel with
  | close w hw =>
    obtain ⟨f, rfl⟩ := exists_eq_add_one_of_le hf
    simp only [tagsBodySize] at hcap h16
    refine ⟨[outpos], ?_⟩
    unfold readTagsLoop
    rw [if_neg (Nat.not_lt.mpr (Nat.le_trans (Nat.le_add_right _ _) h16)),
      readTag_text t tb _ htb outpos cap (Nat.le_trans (Nat.add_le_add_left (Nat.le_add_right _ _) _) hcap)]
    simp only [List.append_assoc, List.cons_append, List.nil_append]
    rw [eatWs_ws_keep w 93 _ hw (by decide)]
    have hlast : ¬ k ≠ n - 1 := by simp only [List.length_nil] at hk; omega
    simp only [if_true, if_neg hlast]
  | more t2 ts2 w w' w'' tb2 r2 hw hw' hw'' htb2 _ ih =>
    obtain ⟨f, rfl⟩ := exists_eq_add_one_of_le hf
    simp only [List.append_assoc, List.cons_append]
    simp only [tagsBodySize] at hcap h16
    have hws := htb2.eatWs w'' hw'' (r2 ++ rest)
    obtain ⟨offs, ih'⟩ := ih t2 tb2 htb2 (k + 1) (by simp at hk ⊢; omega) (outpos + tagSize t)
      (by rw [Nat.add_assoc]; exact hcap) (by rw [Nat.add_assoc]; exact h16) f (Nat.le_of_succ_le_succ hf)
    refine ⟨outpos :: offs, ?_⟩
    unfold readTagsLoop
    rw [if_neg (Nat.not_lt.mpr (Nat.le_trans (Nat.le_add_right _ _) h16)),
      readTag_text t tb _ htb outpos cap (Nat.le_trans (Nat.add_le_add_left (Nat.le_add_right _ _) _) hcap)]
    have hk2 : ¬ k + 1 ≥ n := by simp at hk; omega
    simp only []
    rw [eatWs_ws_keep w 44 _ hw (by decide)]
    simp only [show (44 : Nat) ≠ 93 from by decide, if_false, if_true, eatWs_ws_keep w' 91 _ hw' (by decide), verifyChar,
      hk2, hws, ih']

theorem readTagsArray_text (ts : TagsRec) (tj rest : Bytes) (htj : TagsText ts tj) (cap : Nat)
    (hfit : tagsSize ts ≤ 65535) (hcap : tagsSize ts ≤ cap) :
    readTagsArray (tj ++ rest) cap = .ok (rest, encodeTags ts) := by
  have hsz : 4 + 2 * ts.length + tagsBodySize ts = tagsSize ts := rfl
  cases htj with
  | empty w hw =>
    have hcap4 : ¬ cap < 4 := by simp [tagsSize, tagsBodySize] at hcap; omega
    -- no tags: `count_tags` sees the `]`, `burn_array` skips it, and the section written is the empty one
    simp [readTagsArray, verifyChar, eatWs_ws_keep w 93 rest hw (by decide), hcap4, countTags, burnFuel, burnArray, eatWsC,
      isWs, encodeTags, tagsSize, tagsBodySize, encOffsets, encTagsBody]
  | tags t ts' w w'' tb r hw hw'' htb hr =>
    simp only [List.append_assoc, List.cons_append]
    have hlen := hr.length
    have hws := htb.eatWs w'' hw'' (r ++ rest)
    have hbt := burnTag_text t w'' tb (r ++ rest) hw'' htb
    have hcl := countTagsLoop_text ts' r rest hr 1 ((r ++ rest).length + 1) (by simp only [List.length_append]; omega)
    have hcount : countTags (91 :: (w'' ++ (tb ++ (r ++ rest)))) = .ok (ts'.length + 1) := by
      simp only [countTags, show (91 : Nat) ≠ 93 from by decide, if_false, if_true, hbt, hcl]
    simp only [List.length_cons] at hsz
    have h4 := Nat.le_trans (Nat.le_of_eq hsz) hcap
    obtain ⟨offs, hloop⟩ := readTagsLoop_text ts' t tb r rest htb hr 0 (ts'.length + 1) rfl
      (4 + 2 * (ts'.length + 1)) cap hcap hfit
      ((w'' ++ (tb ++ (r ++ rest))).length + 1) (by simp only [List.length_append]; omega)
    -- `readTagsLoop_text` says only that the loop succeeds (`∃ offs`); what the offsets are comes from the totality lemma
    have hspec := ((readTagsLoop_all _ _ _ _ _ _ (Nat.succ_pos _)).of_ok hloop).2
    unfold readTagsArray
    simp only [verifyChar, if_true]
    rw [eatWs_ws_keep w 91 _ hw (by decide),
      if_neg (Nat.not_lt.mpr (Nat.le_trans (Nat.le_add_right 4 _) (Nat.le_trans (Nat.le_add_right _ _) h4))), hcount]
    dsimp only
    rw [Nat.mul_comm _ 2, if_neg (Nat.succ_ne_zero _), if_neg (by omega)]
    simp only [if_true]
    rw [if_neg (Nat.not_lt.mpr (Nat.le_trans (Nat.le_add_right _ _) h4)), hws, hloop]
    dsimp only
    rw [if_neg (Nat.not_lt.mpr (Nat.le_trans (Nat.le_of_eq hsz) hfit)), encodeTags_of_parts (t :: ts') (ts'.length + 1) offs rfl hspec]

theorem eatColon_ws_tags (w1 w2 : Bytes) (ts : TagsRec) (tj X : Bytes) (h : TagsText ts tj) (h1 : AllWs w1) (h2 : AllWs w2) :
    eatColon (w1 ++ 58 :: (w2 ++ (tj ++ X))) = .ok (tj ++ X) := by
  cases h <;> exact eatColon_ws w1 w2 91 _ h1 h2 (by decide)

theorem readContent_spells (c ec rest : Bytes) (cap a : Nat) (he : Spells c ec)
    (hcap : a + 4 + c.length ≤ cap) (h32 : a + 4 + c.length ≤ 4294967295) :
    readContent (34 :: (ec ++ 34 :: rest)) cap a = .ok (rest, c) := by
  unfold readContent
  simp only [verifyChar_cons]
  rw [if_neg (by omega), jsonUnescape_spells c ec rest _ he (by omega)]
  dsimp only
  rw [if_neg (by unfold U32MAX; omega), drop_len_succ]

theorem strsJson_rest (ss : List Bytes) (hu : ∀ x ∈ ss, IsUtf8 x) :
    ∃ txt, strsJson ss false = .ok txt ∧ StrsRest ss (txt ++ [93]) := by
  induction ss with
  | nil => exact ⟨[], rfl, .close [] allWs_nil⟩
  | cons s ss ih =>
    obtain ⟨e, he, hs⟩ := jsonEscape_ok s (hu s (by simp))
    obtain ⟨r, hr, hrest⟩ := ih fun x hx => hu x (by simp [hx])
    have h : strsJson (s :: ss) false = .ok (44 :: 34 :: (e ++ 34 :: r)) := by simp [strsJson, he, hr]
    have := StrsRest.more s ss [] [] e (r ++ [93]) allWs_nil allWs_nil hs hrest
    exact ⟨_, h, by simpa using this⟩

theorem strsJson_body (t : List Bytes) (hu : ∀ x ∈ t, IsUtf8 x) :
    ∃ txt, strsJson t true = .ok txt ∧ TagBody t (txt ++ [93]) := by
  cases t with
  | nil => exact ⟨[], rfl, .empty⟩
  | cons s ss =>
    obtain ⟨e, he, hs⟩ := jsonEscape_ok s (hu s (by simp))
    obtain ⟨r, hr, hrest⟩ := strsJson_rest ss fun x hx => hu x (by simp [hx])
    have h : strsJson (s :: ss) true = .ok (34 :: (e ++ 34 :: r)) := by simp [strsJson, he, hr]
    have := TagBody.strs s ss e (r ++ [93]) hs hrest
    exact ⟨_, h, by simpa using this⟩

theorem tagsJsonBody_rest (ts : TagsRec) (hu : TagsUtf8 ts) :
    ∃ txt, tagsJsonBody ts false = .ok txt ∧ TagsRest ts (txt ++ [93]) := by
  induction ts with
  | nil => exact ⟨[], rfl, .close [] allWs_nil⟩
  | cons t ts ih =>
    obtain ⟨sj, hsj, hbody⟩ := strsJson_body t (hu t (by simp))
    obtain ⟨r, hr, hrest⟩ := ih fun t' ht' => hu t' (by simp [ht'])
    have h : tagsJsonBody (t :: ts) false = .ok (44 :: 91 :: (sj ++ 93 :: r)) := by simp [tagsJsonBody, hsj, hr]
    have := TagsRest.more t ts [] [] [] (sj ++ [93]) (r ++ [93]) allWs_nil allWs_nil allWs_nil hbody hrest
    exact ⟨_, h, by simpa using this⟩

theorem tagsJson_ok (ts : TagsRec) (hu : TagsUtf8 ts) : ∃ tj, tagsJson ts = .ok tj ∧ TagsText ts tj := by
  cases ts with
  | nil => exact ⟨[91, 93], rfl, .empty [] allWs_nil⟩
  | cons t ts' =>
    obtain ⟨sj, hsj, hbody⟩ := strsJson_body t (hu t (by simp))
    obtain ⟨r, hr, hrest⟩ := tagsJsonBody_rest ts' fun t' ht' => hu t' (by simp [ht'])
    have h : tagsJson (t :: ts') = .ok (91 :: 91 :: (sj ++ 93 :: (r ++ [93]))) := by simp [tagsJson, tagsJsonBody, hsj, hr]
    have := TagsText.tags t ts' [] [] (sj ++ [93]) (r ++ [93]) allWs_nil allWs_nil hbody hrest
    exact ⟨_, h, by simpa using this⟩

end Pocket
