import Pocket.Model.JsonParse
import Pocket.Spec.JsonText
/- runs of JSON whitespace (`eatWs`), and of whitespace and commas (`eatWsC`, which the skipper and the filter parser use) -/
namespace Pocket

theorem verifyChar_cons (c : Nat) (rest : Bytes) : verifyChar c (c :: rest) = .ok rest := if_pos rfl

theorem isWs_iff (b : Nat) : isWs b = true ↔ b = 32 ∨ b = 9 ∨ b = 10 ∨ b = 13 := by
  unfold isWs
  simp only [Bool.or_eq_true, beq_iff_eq, or_assoc]

theorem isWs_eq_false (b : Nat) : isWs b = false ↔ b ≠ 32 ∧ b ≠ 9 ∧ b ≠ 10 ∧ b ≠ 13 := by
  rw [← Bool.not_eq_true, isWs_iff]
  simp only [not_or]

theorem allWs_nil : AllWs [] := fun _ h => nomatch h

theorem eatWs_nonws (b : Nat) (r : Bytes) (h : isWs b = false) : eatWs (b :: r) = b :: r := by
  simp [eatWs, h]

theorem eatWs_ws (w x : Bytes) (hw : AllWs w) : eatWs (w ++ x) = eatWs x := by
  induction w with
  | nil => rfl
  | cons b w ih =>
    have hb := hw b (by simp)
    simp only [List.cons_append, eatWs, hb, if_true]
    exact ih (fun y hy => hw y (by simp [hy]))

theorem eatWs_ws_keep (w : Bytes) (b : Nat) (x : Bytes) (hw : AllWs w) (hb : isWs b = false) :
    eatWs (w ++ b :: x) = b :: x := by
  rw [eatWs_ws w _ hw, eatWs_nonws b x hb]

theorem eatColon_ws (w1 w2 : Bytes) (b : Nat) (x : Bytes) (h1 : AllWs w1) (h2 : AllWs w2) (hb : isWs b = false) :
    eatColon (w1 ++ 58 :: (w2 ++ b :: x)) = .ok (b :: x) := by
  unfold eatColon
  rw [eatWs_ws_keep w1 58 _ h1 (by decide)]
  simp only [verifyChar_cons]
  rw [eatWs_ws_keep w2 b x h2 hb]

theorem eatWsC_keep (b : Nat) (r : Bytes) (h1 : isWs b = false) (h2 : b ≠ 44) : eatWsC (b :: r) = b :: r := by
  have : (b == 44) = false := by simpa using h2
  simp [eatWsC, h1, this]

theorem eatWsC_sepws (w : Bytes) (b : Nat) (x : Bytes) (hw : SepWs w) (h1 : isWs b = false) (h2 : b ≠ 44) :
    eatWsC (w ++ b :: x) = b :: x := by
  induction w with
  | nil => exact eatWsC_keep b x h1 h2
  | cons c w ih =>
    have hc := hw c (by simp)
    have : (isWs c || c == 44) = true := by
      rcases hc with h | h
      · simp [h]
      · simp [h]
    simp only [List.cons_append, eatWsC, this, if_true]
    exact ih (fun y hy => hw y (by simp [hy]))

end Pocket
