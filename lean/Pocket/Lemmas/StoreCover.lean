import Pocket.Lemmas.StoreAddr
/- what a deletion marker covers is not retrievable, in every reachable state (C11); `Unmarked` is defined in
`Lemmas/StoreStep.lean` beside the refusals -/
namespace Pocket

/-- markers and index agree -/
def NoneCovered (live : List SEv) (di : List Bytes) (da : List (AddrKey × Nat)) : Prop :=
  ∀ x ∈ live, Unmarked di da x.e

/-- `req` is the request itself: indexed in the transaction, not yet committed, without an address -/
theorem delTag_noneCovered (c : List SEv) (req : EventRec) (hreq : addrOf req = none) (tag : List Bytes)
    (st st' : DelSt) (h : delTag c req tag st = .ok st')
    (hsub : ∀ x ∈ st.live, x ∈ c ∨ x.e = req)
    (hc : NoneCovered st.live st.delIds st.delAddrs) : NoneCovered st'.live st'.delIds st'.delAddrs := by
  rcases delTag_cases c req tag st st' h with rfl | ⟨id, hne, ⟨hf, rfl⟩ | ⟨t, _, _, rfl⟩⟩ | ⟨kind, d0, rfl⟩
  · exact hc
  · intro x hx
    refine ⟨fun hi => ?_, (hc x hx).2⟩
    rcases (mem_addDelId _ _ _).mp hi with hi | hi
    · exact (hc x hx).1 hi
    · rcases hsub x hx with hxc | hxr
      · exact (findById_eq_none _ _).mp hf x hxc hi
      · rw [hxr] at hi; exact hne hi.symm
  · intro x hx
    obtain ⟨hxl, hxid⟩ := (mem_removeId ..).mp hx
    exact ⟨fun hi => ((mem_addDelId _ _ _).mp hi).elim (hc x hxl).1 hxid, (hc x hxl).2⟩
  · intro x hx
    have hxl := (removeAt_sublist c st.live kind req.pubkey (normD kind d0) req.createdAt).subset hx
    refine ⟨(hc x hxl).1, fun a t ha hm => ?_⟩
    rw [delAddrGet_put] at hm
    by_cases hkey : a = (kind, req.pubkey, normD kind d0)
    · rw [if_pos hkey] at hm
      simp only [Option.some.injEq] at hm
      subst hkey
      have hxc : x ∈ c := by
        rcases hsub x hxl with h' | h'
        · exact h'
        · rw [h'] at ha; rw [hreq] at ha; cases ha
      have h1 : req.createdAt < x.e.createdAt := Nat.lt_of_not_le fun hle =>
        ((mem_removeAt ..).mp hx).2 x hxc ((atAddr_eq_true _ _).mpr ha) hle rfl
      -- and newer than the previous marker, by `hc`
      rw [← hm]
      rcases (laterTime_cases st.delAddrs (kind, req.pubkey, normD kind d0) req.createdAt).2.2 with h2 | h2
      · rw [h2]; exact h1
      · exact (hc x hxl).2 _ _ ha h2
    · rw [if_neg hkey] at hm
      exact (hc x hxl).2 a t ha hm

theorem NoneCovered_txnLive (s : Store) (e : EventRec) (hc : NoneCovered s.db.live s.db.delIds s.db.delAddrs)
    (hr : refusal s.db e = none) : NoneCovered (txnLive s e) s.db.delIds s.db.delAddrs := fun x hx => by
  rcases (mem_txnLive s e x).mp hx with hx | ⟨_, rfl⟩
  · exact hc x ((preRemove_sublist s.db.live e).subset hx)
  · exact ((refusal_eq_none s.db e).mp hr).2

theorem NoneCovered_storeEvent (s : Store) (e : EventRec)
    (hc : NoneCovered s.db.live s.db.delIds s.db.delAddrs) :
    NoneCovered (storeEvent s e).2.db.live (storeEvent s e).2.db.delIds (storeEvent s e).2.db.delAddrs := by
  -- each tag keeps the agreement as long as the view holds only committed events and the request itself
  exact (storeEvent_tables s e
    (fun st => (∀ x ∈ st.live, x ∈ s.db.live ∨ x.e = e) ∧ NoneCovered st.live st.delIds st.delAddrs)
    ⟨fun x hx => .inl hx, hc⟩
    (fun hr _ => ⟨fun x hx => (mem_txnLive_cases s e x hx).imp_right fun h' => by rw [h'], NoneCovered_txnLive s e hc hr⟩)
    fun h5 tag a b ha h1 =>
      ⟨fun x hx => ha.1 x ((delTag_sublist _ _ tag a b h1).subset hx),
       delTag_noneCovered _ e (kind5_no_addr e h5) tag a b h1 ha.1 ha.2⟩).2

theorem NoneCovered_step (s : Store) (op : Op) (hc : NoneCovered s.db.live s.db.delIds s.db.delAddrs) :
    NoneCovered (step s op).db.live (step s op).db.delIds (step s op).db.delAddrs := by
  rcases step_cases s op with ⟨e, _, h⟩ | ⟨l, hl, h⟩ | ⟨_, h⟩ <;> rw [h]
  · exact NoneCovered_storeEvent s e hc
  · exact fun y hy => hc y (hl.subset hy)
  · -- the rebuilt index holds the same events
    intro y hy
    obtain ⟨x, hx, hxe⟩ := rebuild_event_mem s y hy
    rw [← hxe]; exact hc x hx

theorem NoneCovered_run (s : Store) (ops : List Op) (hc : NoneCovered s.db.live s.db.delIds s.db.delAddrs) :
    NoneCovered (run s ops).db.live (run s ops).db.delIds (run s ops).db.delAddrs :=
  run_induct (fun s => NoneCovered s.db.live s.db.delIds s.db.delAddrs) ops (fun s op _ => NoneCovered_step s op) s hc

end Pocket
