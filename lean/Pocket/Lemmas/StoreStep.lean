import Pocket.Model.Store
import Pocket.Spec.AbsStore
import Pocket.Lemmas.ListAux
/- what each operation does to the state, said once (the lookup by id, `findById_*`, is here too): the invariants and the
property theorems go through `storeEvent_outcomes` / `storeEvent_tables` and `step_cases` instead of unfolding `storeEvent` or `step`
(the refinement proofs of `Lemmas/Refine.lean` walk the model and the abstract store side by side) -/
namespace Pocket

theorem removeId_sublist (live : List SEv) (id : Bytes) : (removeId live id).Sublist live :=
  List.filter_sublist

theorem mem_removeId (live : List SEv) (id : Bytes) (x : SEv) : x ∈ removeId live id ↔ x ∈ live ∧ x.e.id ≠ id := by
  rw [removeId, List.mem_filter, bne_iff_ne]

theorem findById_eq_none (live : List SEv) (id : Bytes) : findById live id = none ↔ ∀ x ∈ live, x.e.id ≠ id := by
  unfold findById
  simp only [List.find?_eq_none, beq_iff_eq, ne_eq]

theorem findById_some_mem (live : List SEv) (id : Bytes) (x : SEv) (h : findById live id = some x) :
    x ∈ live ∧ x.e.id = id := by
  unfold findById at h
  have h1 := List.mem_of_find?_eq_some h
  have h2 := List.find?_some h
  exact ⟨h1, by simpa using h2⟩

theorem findById_of_mem (live : List SEv) (x : SEv) (hn : (live.map (·.e.id)).Nodup) (hx : x ∈ live) :
    findById live x.e.id = some x :=
  find?_key (fun y : SEv => y.e.id) live hn x hx

theorem removeAt_sublist (c t : List SEv) (k : Nat) (a d : Bytes) (u : Nat) :
    (removeAt c t k a d u).Sublist t := by
  unfold removeAt
  repeat' split
  · exact List.filter_sublist
  · exact List.filter_sublist
  · exact List.Sublist.refl _

theorem delTag_e (c : List SEv) (req : EventRec) (v : Bytes) (rest : List Bytes) (st : DelSt) (id : Bytes)
    (h : readHex 32 v = .ok id) : delTag c req (KEY_E :: v :: rest) st = delE c req id st := by
  simp only [delTag, show (KEY_E == KEY_E) = true from rfl, if_true, h]

theorem delTag_a (c : List SEv) (req : EventRec) (v : Bytes) (rest : List Bytes) (st : DelSt) (k : Nat) (a d0 : Bytes)
    (h : parseAddr v = some (k, a, d0)) : delTag c req (KEY_A :: v :: rest) st = delA c req k a d0 st := by
  simp only [delTag, show (KEY_A == KEY_E) = false from rfl, show (KEY_A == KEY_A) = true from rfl,
    Bool.false_eq_true, if_false, if_true, h]

theorem delTag_dispatch (c : List SEv) (req : EventRec) (tag : List Bytes) (st : DelSt) :
    delTag c req tag st = .ok st ∨ (∃ id, delTag c req tag st = delE c req id st) ∨
      (∃ k a d0, delTag c req tag st = delA c req k a d0 st) := by
  unfold delTag
  split
  · rename_i name v _
    by_cases hE : (name == KEY_E) = true
    · rw [if_pos hE]
      split
      · exact .inr (.inl ⟨_, rfl⟩)
      · exact .inl rfl
    · rw [if_neg hE]
      by_cases hA : (name == KEY_A) = true
      · rw [if_pos hA]
        split
        · exact .inr (.inr ⟨_, _, _, rfl⟩)
        · exact .inl rfl
      · rw [if_neg hA]; exact .inl rfl
  · exact .inl rfl

theorem delE_ok (c : List SEv) (req : EventRec) (id : Bytes) (st st' : DelSt) (h : delE c req id st = .ok st') :
    (id = req.id ∧ st' = st) ∨
    (id ≠ req.id ∧
      ((findById c id = none ∧ st' = { st with delIds := addDelId st.delIds id }) ∨
       (∃ t, findById c id = some t ∧ t.e.pubkey = req.pubkey ∧
          st' = { st with live := removeId st.live id, delIds := addDelId st.delIds id }))) := by
  unfold delE at h
  by_cases hid : (id == req.id) = true
  · rw [if_pos hid] at h; cases h; exact .inl ⟨by simpa using hid, rfl⟩
  · rw [if_neg hid] at h
    refine .inr ⟨by simpa using hid, ?_⟩
    split at h
    · rename_i t hf
      by_cases hpk : (t.e.pubkey != req.pubkey) = true
      · rw [if_pos hpk] at h; cases h
      · rw [if_neg hpk] at h; cases h
        exact .inr ⟨t, hf, by simpa using hpk, rfl⟩
    · rename_i hf; cases h; exact .inl ⟨hf, rfl⟩

theorem delA_ok (c : List SEv) (req : EventRec) (k : Nat) (a d0 : Bytes) (st st' : DelSt)
    (h : delA c req k a d0 st = .ok st') :
    a = req.pubkey ∧ st' =
      { live := removeAt c st.live k req.pubkey (normD k d0) req.createdAt,
        delIds := st.delIds,
        delAddrs := delAddrPut st.delAddrs (k, req.pubkey, normD k d0)
          (laterTime st.delAddrs (k, req.pubkey, normD k d0) req.createdAt) } := by
  unfold delA at h
  by_cases hau : (a != req.pubkey) = true
  · rw [if_pos hau] at h; cases h
  · rw [if_neg hau] at h
    have hau' : a = req.pubkey := by simpa using hau
    subst hau'
    split at h
    · cases h
    · cases h; exact ⟨rfl, rfl⟩

/-- a tag that does not fail does nothing, marks an id, or marks an address of the requester -/
theorem delTag_cases (c : List SEv) (req : EventRec) (tag : List Bytes) (st st' : DelSt)
    (h : delTag c req tag st = .ok st') :
    st' = st ∨
    (∃ id, id ≠ req.id ∧
      ((findById c id = none ∧ st' = { st with delIds := addDelId st.delIds id }) ∨
       (∃ t, findById c id = some t ∧ t.e.pubkey = req.pubkey ∧
          st' = { st with live := removeId st.live id, delIds := addDelId st.delIds id }))) ∨
    (∃ kind d, st' =
      { live := removeAt c st.live kind req.pubkey (normD kind d) req.createdAt,
        delIds := st.delIds,
        delAddrs := delAddrPut st.delAddrs (kind, req.pubkey, normD kind d)
          (laterTime st.delAddrs (kind, req.pubkey, normD kind d) req.createdAt) }) := by
  rcases delTag_dispatch c req tag st with hd | ⟨id, hd⟩ | ⟨k, a, d0, hd⟩ <;> rw [hd] at h
  · cases h; exact .inl rfl
  · rcases delE_ok c req id st st' h with ⟨_, rfl⟩ | ⟨hne, h'⟩
    · exact .inl rfl
    · exact .inr (.inl ⟨id, hne, h'⟩)
  · exact .inr (.inr ⟨k, d0, (delA_ok c req k a d0 st st' h).2⟩)

theorem delTag_sublist (c : List SEv) (req : EventRec) (tag : List Bytes) (st st' : DelSt)
    (h : delTag c req tag st = .ok st') : st'.live.Sublist st.live := by
  rcases delTag_cases c req tag st st' h with rfl | ⟨id, _, ⟨_, rfl⟩ | ⟨t, _, _, rfl⟩⟩ | ⟨k, d, rfl⟩
  · exact List.Sublist.refl _
  · exact List.Sublist.refl _
  · exact removeId_sublist _ _
  · exact removeAt_sublist _ _ _ _ _ _

theorem handleDeletion_cons_ok (c : List SEv) (req : EventRec) (tag : List Bytes) (rest : TagsRec) (st st' : DelSt) :
    handleDeletion c req (tag :: rest) st = .ok st' ↔
      ∃ st1, delTag c req tag st = .ok st1 ∧ handleDeletion c req rest st1 = .ok st' := by
  rw [handleDeletion]
  cases delTag c req tag st with
  | ok st1 => exact ⟨fun h => ⟨st1, rfl, h⟩, fun ⟨_, h1, h⟩ => by cases h1; exact h⟩
  | invalid => exact ⟨nofun, fun ⟨_, h1, _⟩ => nomatch h1⟩
  | lmdbErr => exact ⟨nofun, fun ⟨_, h1, _⟩ => nomatch h1⟩

theorem handleDeletion_preserves (c : List SEv) (req : EventRec) (R : DelSt → Prop)
    (hstep : ∀ tag st st', R st → delTag c req tag st = .ok st' → R st')
    (tags : TagsRec) (st st' : DelSt) (h0 : R st) (h : handleDeletion c req tags st = .ok st') : R st' := by
  induction tags generalizing st with
  | nil => cases h; exact h0
  | cons tag rest ih =>
    obtain ⟨st1, h1, h⟩ := (handleDeletion_cons_ok c req tag rest st st').mp h
    exact ih st1 (hstep tag st st1 h0 h1) h

theorem preRemove_sublist (c : List SEv) (e : EventRec) : (preRemove c e).1.Sublist c := by
  unfold preRemove
  split
  · exact List.filter_sublist
  · split
    · split
      · exact List.filter_sublist
      · exact List.Sublist.refl _
    · exact List.Sublist.refl _

theorem addrMarker_eq (db : Db) (e : EventRec) :
    delByAddr.addrMarker db e = (addrOf e).bind (delAddrGet db.delAddrs) := by
  unfold delByAddr.addrMarker addrOf
  by_cases h1 : isReplaceable e.kind = true
  · simp [h1]
  · simp only [h1, Bool.false_eq_true, if_false]
    by_cases h2 : isParamReplaceable e.kind = true
    · simp only [h2, if_true]
      cases getValue e.tags KEY_D <;> simp
    · simp [h2]

theorem delByAddr_eq_true (db : Db) (e : EventRec) :
    delByAddr db e = true ↔
      ∃ a t, addrOf e = some a ∧ delAddrGet db.delAddrs a = some t ∧ e.createdAt ≤ t := by
  unfold delByAddr
  rw [addrMarker_eq]
  cases addrOf e with
  | none => simp
  | some a => cases hm : delAddrGet db.delAddrs a <;> simp [hm]

theorem delByAddr_eq_false (db : Db) (e : EventRec) :
    delByAddr db e = false ↔
      ∀ a t, addrOf e = some a → delAddrGet db.delAddrs a = some t → t < e.createdAt := by
  rw [← Bool.not_eq_true, delByAddr_eq_true]
  exact ⟨fun h a t ha hm => Nat.lt_of_not_le fun hle => h ⟨a, t, ha, hm, hle⟩,
    fun h ⟨a, t, ha, hm, hle⟩ => absurd (h a t ha hm) (Nat.not_lt.mpr hle)⟩

/-- no deletion marker covers the event: asked of a new one (`refusal_eq_none`), true of every indexed one (`NoneCovered`) -/
abbrev Unmarked (di : List Bytes) (da : List (AddrKey × Nat)) (e : EventRec) : Prop :=
  e.id ∉ di ∧ ∀ a t, addrOf e = some a → delAddrGet da a = some t → t < e.createdAt

theorem refusal_eq_none (db : Db) (e : EventRec) :
    refusal db e = none ↔ findById db.live e.id = none ∧ Unmarked db.delIds db.delAddrs e := by
  -- guard by guard; the rest turns Boolean tests into propositions
  unfold refusal
  simp only [ite_some_eq_none, and_true, Bool.not_eq_true, Option.isSome_eq_false_iff, Option.isNone_iff_eq_none,
    List.contains_eq_mem, decide_eq_false_iff_not, delByAddr_eq_false]

theorem refusal_eq_some (db : Db) (e : EventRec) (r : Reply) :
    refusal db e = some r ↔
      (r = .duplicate ∧ (findById db.live e.id).isSome = true) ∨
      (r = .deleted ∧ findById db.live e.id = none ∧ (e.id ∈ db.delIds ∨ delByAddr db e = true)) := by
  -- the two guards that answer "deleted" taken as one
  unfold refusal
  rw [ite_ite_same]
  simp only [ite_some_eq_some, reduceCtorEq, and_false, or_false, Bool.not_eq_true, Option.isSome_eq_false_iff,
    Option.isNone_iff_eq_none, List.contains_eq_mem, decide_eq_true_eq, @eq_comm _ _ r]
  exact or_congr And.comm ⟨fun ⟨h1, h2, h3⟩ => ⟨h3, h1, h2⟩, fun ⟨h3, h1, h2⟩ => ⟨h1, h2, h3⟩⟩

theorem refusal_cases (db : Db) (e : EventRec) (r : Reply) (h : refusal db e = some r) :
    r = .duplicate ∨ r = .deleted :=
  ((refusal_eq_some db e r).mp h).imp (·.1) (·.1)

theorem storeEvent_refused (s : Store) (e : EventRec) (r : Reply) (h : refusal s.db e = some r) :
    storeEvent s e = (r, s) := by
  unfold storeEvent; rw [h]

theorem storeEvent_replaced (s : Store) (e : EventRec) (hr : refusal s.db e = none)
    (hp : (preRemove s.db.live e).2 = true) : storeEvent s e = (.replaced, s) := by
  unfold storeEvent; rw [hr]; dsimp only; rw [if_pos hp]

theorem storeEvent_plain (s : Store) (e : EventRec) (hr : refusal s.db e = none)
    (hp : (preRemove s.db.live e).2 = false) (h5 : e.kind ≠ 5) :
    storeEvent s e = (.ok (align8 s.end), commitPlain s e) := by
  unfold storeEvent; rw [hr]; dsimp only; rw [if_neg (by rw [hp]; exact Bool.false_ne_true), if_neg h5]

theorem storeEvent_request (s : Store) (e : EventRec) (hr : refusal s.db e = none)
    (hp : (preRemove s.db.live e).2 = false) (h5 : e.kind = 5) :
    storeEvent s e =
      match handleDeletion s.db.live e e.tags ⟨txnLive s e, s.db.delIds, s.db.delAddrs⟩ with
      | .ok st => (.ok (align8 s.end), commitDel s e st)
      | .invalid => (.invalidDelete, appendLog s e)
      | .lmdbErr => (.other, appendLog s e) := by
  unfold storeEvent; rw [hr]; dsimp only; rw [if_neg (by rw [hp]; exact Bool.false_ne_true), if_pos h5]
  cases handleDeletion s.db.live e e.tags ⟨txnLive s e, s.db.delIds, s.db.delAddrs⟩ <;> rfl

/-- `store_event` is refused with nothing written, or after the append (a deletion request naming a foreign target or an
over-long address), or accepted: then what holds of the transaction view and survives each tag (kind 5 only) holds of the
committed tables -/
theorem storeEvent_outcomes (s : Store) (e : EventRec) :
    ((∀ off, (storeEvent s e).1 ≠ .ok off) ∧ (storeEvent s e).2 = s) ∨
    ((∀ off, (storeEvent s e).1 ≠ .ok off) ∧ (storeEvent s e).2 = appendLog s e) ∨
    (refusal s.db e = none ∧ (preRemove s.db.live e).2 = false ∧ ∃ st,
      storeEvent s e = (.ok (align8 s.end), commitDel s e st) ∧
      ∀ R : DelSt → Prop, R ⟨txnLive s e, s.db.delIds, s.db.delAddrs⟩ →
        (e.kind = 5 → ∀ tag a b, R a → delTag s.db.live e tag a = .ok b → R b) → R st) := by
  cases hr : refusal s.db e with
  | some r =>
    rw [storeEvent_refused s e r hr]
    refine .inl ⟨fun off h => ?_, rfl⟩
    rcases refusal_cases _ _ _ hr with h' | h' <;> rw [h'] at h <;> cases h
  | none =>
    by_cases hp : (preRemove s.db.live e).2 = true
    · rw [storeEvent_replaced s e hr hp]; exact .inl ⟨fun _ => nofun, rfl⟩
    · have hp : (preRemove s.db.live e).2 = false := by simpa using hp
      by_cases h5 : e.kind = 5
      · rw [storeEvent_request s e hr hp h5]
        cases hd : handleDeletion s.db.live e e.tags ⟨txnLive s e, s.db.delIds, s.db.delAddrs⟩ with
        | ok st =>
          exact .inr (.inr ⟨rfl, hp, st, rfl, fun R h0 hs => handleDeletion_preserves _ _ R (hs h5) _ _ _ h0 hd⟩)
        | invalid => exact .inr (.inl ⟨fun _ => nofun, rfl⟩)
        | lmdbErr => exact .inr (.inl ⟨fun _ => nofun, rfl⟩)
      · -- `commitPlain s e` is `commitDel` of the untouched transaction view
        rw [storeEvent_plain s e hr hp h5]
        exact .inr (.inr ⟨rfl, hp, _, rfl, fun R h0 _ => h0⟩)

/-- `storeEvent_outcomes` for the tables alone: unchanged when refused, the transaction view after the tags when accepted -/
theorem storeEvent_tables (s : Store) (e : EventRec) (R : DelSt → Prop) (h0 : R ⟨s.db.live, s.db.delIds, s.db.delAddrs⟩)
    (hview : refusal s.db e = none → (preRemove s.db.live e).2 = false → R ⟨txnLive s e, s.db.delIds, s.db.delAddrs⟩)
    (htag : e.kind = 5 → ∀ tag a b, R a → delTag s.db.live e tag a = .ok b → R b) :
    R ⟨(storeEvent s e).2.db.live, (storeEvent s e).2.db.delIds, (storeEvent s e).2.db.delAddrs⟩ := by
  rcases storeEvent_outcomes s e with ⟨_, h⟩ | ⟨_, h⟩ | ⟨hr, hp, st, h, hst⟩ <;> rw [h]
  · exact h0
  · exact h0
  · exact hst R (hview hr hp) htag

theorem absStore_cases (a : Abs) (e : EventRec) :
    ((∀ off, (absStore a e).1 ≠ .ok off) ∧
      ((absStore a e).2 = a ∨
       (absStore a e).2 = { a with log := a.log ++ [(align8 a.end, e)], «end» := align8 a.end + eventLen e })) ∨
    (∃ l di da, absStore a e = (.ok (align8 a.end),
      { live := l, delIds := di, delAddrs := da, log := a.log ++ [(align8 a.end, e)],
        «end» := align8 a.end + eventLen e })) := by
  unfold absStore
  by_cases c1 : (a.live.any fun x => x.id == e.id) = true
  · rw [if_pos c1]; exact .inl ⟨fun _ => nofun, .inl rfl⟩
  rw [if_neg c1]
  by_cases c2 : a.delIds.contains e.id = true
  · rw [if_pos c2]; exact .inl ⟨fun _ => nofun, .inl rfl⟩
  rw [if_neg c2]
  by_cases c3 : coveredBy a.delAddrs e = true
  · rw [if_pos c3]; exact .inl ⟨fun _ => nofun, .inl rfl⟩
  rw [if_neg c3]
  by_cases c4 : (absPre a.live e).2 = true
  · rw [if_pos c4]; exact .inl ⟨fun _ => nofun, .inl rfl⟩
  rw [if_neg c4]
  by_cases c5 : e.kind = 5
  · rw [if_pos c5]
    split
    · exact .inr ⟨_, _, _, rfl⟩
    · exact .inl ⟨fun _ => nofun, .inr rfl⟩
    · exact .inl ⟨fun _ => nofun, .inr rfl⟩
  · rw [if_neg c5]; exact .inr ⟨_, _, _, rfl⟩

theorem mem_txnLive (s : Store) (e : EventRec) (x : SEv) :
    x ∈ txnLive s e ↔ x ∈ (preRemove s.db.live e).1 ∨ (isEphemeral e.kind = false ∧ x = ⟨align8 s.end, e⟩) := by
  unfold txnLive
  split
  · rename_i h; rw [h]; exact ⟨.inl, fun h' => h'.elim (fun hx => hx) fun h'' => nomatch h''.1⟩
  · rename_i h; rw [List.mem_append, List.mem_singleton, Bool.not_eq_true _ |>.mp h, eq_self, true_and]

theorem txnLive_sublist (s : Store) (e : EventRec) :
    (txnLive s e).Sublist (s.db.live ++ [⟨align8 s.end, e⟩]) := by
  have hp := preRemove_sublist s.db.live e
  unfold txnLive
  split
  · exact hp.trans (List.sublist_append_left _ _)
  · exact List.Sublist.append hp (List.Sublist.refl _)

theorem mem_txnLive_cases (s : Store) (e : EventRec) (x : SEv) (hx : x ∈ txnLive s e) :
    x ∈ s.db.live ∨ x = ⟨align8 s.end, e⟩ :=
  (List.mem_append.mp ((txnLive_sublist s e).subset hx)).imp_right List.mem_singleton.mp

theorem storeEvent_live_sublist (s : Store) (e : EventRec) :
    ((storeEvent s e).2.db.live).Sublist (s.db.live ++ [⟨align8 s.end, e⟩]) :=
  storeEvent_tables s e (·.live.Sublist _) (List.sublist_append_left _ _) (fun _ _ => txnLive_sublist s e)
    fun _ tag a b ha h1 => (delTag_sublist _ _ tag a b h1).trans ha

theorem storeEvent_ok (s : Store) (e : EventRec) (off : Nat) (h : (storeEvent s e).1 = .ok off) :
    refusal s.db e = none ∧ (preRemove s.db.live e).2 = false ∧ off = align8 s.end ∧
      (storeEvent s e).2.log = s.log ++ [⟨off, e⟩] ∧ (storeEvent s e).2.end = off + eventLen e := by
  rcases storeEvent_outcomes s e with ⟨hno, _⟩ | ⟨hno, _⟩ | ⟨hr, hp, st, h', _⟩
  · exact absurd h (hno off)
  · exact absurd h (hno off)
  · rw [h'] at h ⊢
    cases h
    exact ⟨hr, hp, rfl, rfl, rfl⟩

theorem storeEvent_fail_db (s : Store) (e : EventRec) (h : ∀ off, (storeEvent s e).1 ≠ .ok off) :
    (storeEvent s e).2.db = s.db := by
  rcases storeEvent_outcomes s e with ⟨_, h'⟩ | ⟨_, h'⟩ | ⟨_, _, st, h', _⟩
  · rw [h']
  · rw [h']; rfl
  · rw [h'] at h; exact absurd rfl (h _)

theorem removeAll_sublist (evs : List SEv) (live : List SEv) : (removeAll live evs).Sublist live := by
  unfold removeAll
  induction evs generalizing live with
  | nil => exact List.Sublist.refl _
  | cons x evs ih => exact (ih _).trans (removeId_sublist _ _)

theorem removeFound_sublist (live : List SEv) (r : FindReply) : (removeFound live r).Sublist live := by
  cases r with
  | ok evs red => exact removeAll_sublist _ _
  | scraper => exact List.Sublist.refl _

theorem vanishAuthored_sublist (live : List SEv) (pk : Bytes) : (vanishAuthored live pk).Sublist live :=
  removeFound_sublist _ _

/-- rewrite with this (or use `step_cases`): unifying through `vanish s pk` makes Lean run both queries on the concrete filters -/
theorem vanish_eq (s : Store) (pk : Bytes) :
    vanish s pk = { s with db := { s.db with live := vanishWraps (vanishAuthored s.db.live pk) pk } } := rfl

theorem vanishLive_sublist (live : List SEv) (pk : Bytes) : (vanishWraps (vanishAuthored live pk) pk).Sublist live :=
  (removeFound_sublist _ _).trans (vanishAuthored_sublist live pk)

/-- `remove`, `vanish` and `reopen` are one case: the index shrinks, nothing else moves -/
theorem step_cases (s : Store) (op : Op) :
    (∃ e, op = .store e ∧ step s op = (storeEvent s e).2) ∨
    (∃ l, l.Sublist s.db.live ∧ step s op = { s with db := { s.db with live := l } }) ∨
    (op = .rebuild ∧ step s op = rebuild s) := by
  cases op with
  | store e => exact .inl ⟨e, rfl, rfl⟩
  | remove id => exact .inr (.inl ⟨_, removeId_sublist _ id, rfl⟩)
  | vanish pk => exact .inr (.inl ⟨_, vanishLive_sublist s.db.live pk, rfl⟩)
  | reopen => exact .inr (.inl ⟨_, List.Sublist.refl _, rfl⟩)
  | rebuild => exact .inr (.inr ⟨rfl, rfl⟩)

theorem run_induct (P : Store → Prop) (ops : List Op) (hstep : ∀ s, ∀ op ∈ ops, P s → P (step s op))
    (s : Store) (h0 : P s) : P (run s ops) :=
  List.foldlRecOn ops step h0 fun s hs op hop => hstep s op hop hs

theorem run_append (s : Store) (a b : List Op) : run s (a ++ b) = run (run s a) b := List.foldl_append

end Pocket
