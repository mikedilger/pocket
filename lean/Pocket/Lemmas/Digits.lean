import Pocket.Model.JsonParse
import Pocket.Model.Event
import Pocket.Spec.JsonText
import Pocket.Lemmas.Ws
/- decimal literals: `format!("{}", n)` read back by `read_u64` / `read_kind` -/
namespace Pocket

/-- the digit loop of `read_u64` and `read_kind`, the largest value a parameter -/
def digitLoop (max : Nat) : Bytes → Nat → Bool → Outcome (Nat × Bool × Bytes)
  | [], acc, any => .ok (acc, any, [])
  | b :: rest, acc, any =>
    if isDigit b then
      let v := acc * 10 + (b - 48)
      if v > max then .err else digitLoop max rest v true
    else .ok (acc, any, b :: rest)

theorem readU64Loop_eq (inp : Bytes) (acc : Nat) (any : Bool) : readU64Loop inp acc any = digitLoop U64MAX inp acc any := by
  induction inp generalizing acc any with
  | nil => rfl
  | cons b r ih => simp only [readU64Loop, digitLoop, ih]

theorem readKindLoop_eq (inp : Bytes) (acc : Nat) (any : Bool) : readKindLoop inp acc any = digitLoop 65535 inp acc any := by
  induction inp generalizing acc any with
  | nil => rfl
  | cons b r ih => simp only [readKindLoop, digitLoop, ih]

theorem isDigit_iff (b : Nat) : isDigit b = true ↔ 48 ≤ b ∧ b ≤ 57 := by
  unfold isDigit
  simp only [Bool.and_eq_true, decide_eq_true_eq]

theorem digitLoop_stop (max : Nat) (rest : Bytes) (acc : Nat) (any : Bool) (h : NoLeadingDigit rest) :
    digitLoop max rest acc any = .ok (acc, any, rest) := by
  cases rest with
  | nil => rfl
  | cons b r => simp [digitLoop, h b r rfl]

/-- the recursion of `decDigits`: a number of two or more digits without its last is smaller -/
theorem div10_lt {n f : Nat} (h : n < f + 1) (h10 : ¬ n < 10) : n / 10 < f :=
  Nat.lt_of_lt_of_le (Nat.div_lt_self (Nat.lt_of_lt_of_le (by decide) (Nat.le_of_not_lt h10)) (by decide)) (Nat.le_of_lt_succ h)

theorem digit_range (d : Nat) (hd : d < 10) : 48 ≤ 48 + d ∧ 48 + d ≤ 57 :=
  ⟨Nat.le_add_right _ _, Nat.add_le_add_left (Nat.le_of_lt_succ hd) 48⟩

theorem digitLoop_digit (max d : Nat) (hd : d < 10) (rest : Bytes) (acc : Nat) (any : Bool) :
    digitLoop max ((48 + d) :: rest) acc any =
      if acc * 10 + d ≤ max then digitLoop max rest (acc * 10 + d) true else .err := by
  rw [digitLoop, if_pos ((isDigit_iff _).mpr (digit_range d hd)), Nat.add_sub_cancel_left]
  by_cases h : acc * 10 + d ≤ max
  · rw [if_pos h]; exact if_neg (Nat.not_lt.mpr h)
  · rw [if_neg h]; exact if_pos (Nat.lt_of_not_le h)

theorem digitLoop_digits (max f n : Nat) (rest : Bytes) (any : Bool) (hf : n < f) :
    digitLoop max (decDigits f n ++ rest) 0 any = if n ≤ max then digitLoop max rest n true else .err := by
  induction f generalizing n rest any with
  | zero => omega
  | succ f ih =>
    unfold decDigits
    by_cases h10 : n < 10
    · rw [if_pos h10]
      simpa using digitLoop_digit max n h10 rest 0 any
    · rw [if_neg h10, List.append_assoc, ih (n / 10) _ any (div10_lt hf h10)]
      have hd := digitLoop_digit max (n % 10) (Nat.mod_lt _ (by decide)) rest (n / 10) true
      rw [Nat.div_add_mod' n 10] at hd
      by_cases hq : n / 10 ≤ max
      · rw [if_pos hq]; exact hd
      · rw [if_neg hq, if_neg fun h => hq (Nat.le_trans (Nat.div_le_self n 10) h)]

theorem readU64_decOf (n : Nat) (rest : Bytes) (hn : n < 18446744073709551616)
    (hr : NoLeadingDigit rest) : readU64 (decOf n ++ rest) = .ok (n, rest) := by
  rw [readU64, readU64Loop_eq, decOf, digitLoop_digits _ (n + 1) n rest false (by omega),
    if_pos (by unfold U64MAX; omega), digitLoop_stop _ rest n true hr]
  rfl

theorem readU64_decOf_wide (n : Nat) (rest : Bytes) (hn : n ≥ 18446744073709551616) :
    readU64 (decOf n ++ rest) = .err := by
  rw [readU64, readU64Loop_eq, decOf, digitLoop_digits _ (n + 1) n rest false (by omega),
    if_neg (by unfold U64MAX; omega)]

theorem readKind_decOf (n : Nat) (rest : Bytes) (hn : n < 65536) (hr : NoLeadingDigit rest) :
    readKind (decOf n ++ rest) = .ok (n, rest) := by
  rw [readKind, readKindLoop_eq, decOf, digitLoop_digits _ (n + 1) n rest false (by omega),
    if_pos (by omega), digitLoop_stop _ rest n true hr]
  rfl

theorem readKind_decOf_wide (n : Nat) (rest : Bytes) (hn : n ≥ 65536) :
    readKind (decOf n ++ rest) = .err := by
  rw [readKind, readKindLoop_eq, decOf, digitLoop_digits _ (n + 1) n rest false (by omega), if_neg (by omega)]

theorem noLeadingDigit_of (b : Nat) (r : Bytes) (h : isDigit b = false) : NoLeadingDigit (b :: r) := by
  intro b' r' h'; simp only [List.cons.injEq] at h'; rw [← h'.1]; exact h

theorem decDigits_digits (f n : Nat) : ∀ b ∈ decDigits f n, 48 ≤ b ∧ b ≤ 57 := by
  induction f generalizing n with
  | zero => intro b hb; cases hb
  | succ f ih =>
    intro b hb
    unfold decDigits at hb
    split at hb
    · rename_i h10
      rw [List.mem_singleton] at hb
      exact hb ▸ digit_range n h10
    · simp only [List.mem_append, List.mem_singleton] at hb
      rcases hb with hb | hb
      · exact ih _ b hb
      · exact hb ▸ digit_range _ (Nat.mod_lt n (by decide))

theorem decDigits_head (f n : Nat) (hf : n < f) :
    ∃ d ds, decDigits f n = d :: ds ∧ 48 ≤ d ∧ d ≤ 57 := by
  cases h : decDigits f n with
  | nil =>
    -- with fuel, both branches of `decDigits` end in a digit
    cases f with
    | zero => exact absurd hf (Nat.not_lt_zero n)
    | succ f => unfold decDigits at h; split at h <;> simp at h
  | cons d ds => exact ⟨d, ds, rfl, decDigits_digits f n d (h ▸ List.mem_cons_self)⟩

theorem decOf_head (n : Nat) : ∃ d ds, decOf n = d :: ds ∧ 48 ≤ d ∧ d ≤ 57 :=
  decDigits_head (n + 1) n (by omega)

theorem eatColon_ws_dec (w1 w2 : Bytes) (n : Nat) (X : Bytes) (h1 : AllWs w1) (h2 : AllWs w2) :
    eatColon (w1 ++ 58 :: (w2 ++ (decOf n ++ X))) = .ok (decOf n ++ X) := by
  obtain ⟨d, ds, hd, _, _⟩ := decOf_head n
  rw [hd]
  exact eatColon_ws w1 w2 d (ds ++ X) h1 h2 ((isWs_eq_false d).mpr (by omega))

end Pocket
