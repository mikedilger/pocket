import Pocket.Lemmas.StoreRead
import Pocket.Spec.StoreInv
/- what deletion handling and pre-removal can touch (C09–C11): both remove by offset what a scan of the committed view
selects; on unique offsets that is a filter by address (`remove_victims`) -/
namespace Pocket

/-- the kind classes as ranges, from which their disjointness is read off -/
theorem kind_ranges (k : Nat) :
    (isReplaceable k = true ↔ (k = 0 ∨ k = 3 ∨ (10000 ≤ k ∧ k < 20000))) ∧
    (isEphemeral k = true ↔ (20000 ≤ k ∧ k < 30000)) ∧
    (isParamReplaceable k = true ↔ (30000 ≤ k ∧ k < 40000)) := by
  refine ⟨?_, ?_, ?_⟩
  · -- the model tests the range first: only the order of the disjuncts differs
    unfold isReplaceable
    simp only [Bool.or_eq_true, Bool.and_eq_true, decide_eq_true_eq, beq_iff_eq]
    rw [or_assoc, or_comm, or_assoc]
  · unfold isEphemeral
    simp only [Bool.and_eq_true, decide_eq_true_eq]
  · unfold isParamReplaceable
    simp only [Bool.and_eq_true, decide_eq_true_eq]

theorem addrOf_eq_some (x : EventRec) (k : Nat) (a d : Bytes) :
    addrOf x = some (k, a, d) ↔
      x.kind = k ∧ x.pubkey = a ∧
        ((isReplaceable k = true ∧ d = []) ∨
         (isReplaceable k = false ∧ isParamReplaceable k = true ∧ getValue x.tags KEY_D = some d)) := by
  unfold addrOf
  by_cases hr : isReplaceable x.kind = true
  · rw [if_pos hr]
    constructor
    · intro h; cases h; exact ⟨rfl, rfl, .inl ⟨hr, rfl⟩⟩
    · rintro ⟨rfl, rfl, ⟨_, rfl⟩ | ⟨h, _⟩⟩
      · rfl
      · rw [hr] at h; cases h
  · rw [if_neg hr]
    have hr' : isReplaceable x.kind = false := by simpa using hr
    by_cases hp : isParamReplaceable x.kind = true
    · rw [if_pos hp]
      constructor
      · intro h
        cases hd : getValue x.tags KEY_D with
        | none => rw [hd] at h; cases h
        | some d' => rw [hd] at h; cases h; exact ⟨rfl, rfl, .inr ⟨hr', hp, rfl⟩⟩
      · rintro ⟨rfl, rfl, ⟨h, _⟩ | ⟨_, _, hd⟩⟩
        · exact absurd h hr
        · rw [hd]; rfl
    · rw [if_neg hp]
      constructor
      · intro h; cases h
      · rintro ⟨rfl, rfl, ⟨h, _⟩ | ⟨_, h, _⟩⟩
        · exact absurd h hr
        · exact absurd h hp

theorem addrOf_author (x : EventRec) (k : Nat) (a d : Bytes) (h : addrOf x = some (k, a, d)) : x.pubkey = a :=
  ((addrOf_eq_some x k a d).mp h).2.1

theorem atAddr_eq_true (k : AddrKey) (x : EventRec) : atAddr k x = true ↔ addrOf x = some k := by
  unfold atAddr; exact beq_iff_eq

theorem atAddr_repl (k : Nat) (a : Bytes) (hk : isReplaceable k = true) (x : EventRec) :
    atAddr (k, a, []) x = (x.pubkey == a && x.kind == k) := by
  unfold atAddr
  rw [Bool.eq_iff_iff, beq_iff_eq, addrOf_eq_some, hk]
  simp only [Bool.and_eq_true, beq_iff_eq, and_self, Bool.true_eq_false, false_and, or_false, and_true]
  exact And.comm

theorem atAddr_param (k : Nat) (a d : Bytes) (hk : isParamReplaceable k = true) (x : EventRec) :
    atAddr (k, a, d) x = isParamHolder x k a d := by
  have hnr : isReplaceable k = false := Bool.eq_false_iff.mpr fun h => by
    have := (kind_ranges k).1.mp h; have := (kind_ranges k).2.2.mp hk; omega
  unfold atAddr
  rw [Bool.eq_iff_iff, beq_iff_eq, addrOf_eq_some]
  simp only [isParamHolder, Bool.and_eq_true, beq_iff_eq, hnr, hk, Bool.false_eq_true, false_and, true_and, false_or]
  exact ⟨fun ⟨h2, h1, h3⟩ => ⟨⟨h1, h2⟩, h3⟩, fun ⟨⟨h1, h2⟩, h3⟩ => ⟨h2, h1, h3⟩⟩

theorem atAddr_none (k : Nat) (a d : Bytes) (h1 : isReplaceable k = false) (h2 : isParamReplaceable k = false)
    (x : EventRec) : atAddr (k, a, d) x = false := by
  unfold atAddr
  rw [beq_eq_false_iff_ne, ne_eq, addrOf_eq_some, h1, h2]
  simp

theorem repl_holder_iff (e x : EventRec) (he : isReplaceable e.kind = true) :
    (x.pubkey = e.pubkey ∧ x.kind = e.kind) ↔ addrOf x = addrOf e := by
  rw [(addrOf_eq_some e e.kind e.pubkey []).mpr ⟨rfl, rfl, .inl ⟨he, rfl⟩⟩, addrOf_eq_some, he]
  simp only [and_self, Bool.true_eq_false, false_and, or_false, and_true]
  exact And.comm

theorem kind5_no_addr (e : EventRec) (h : e.kind = 5) : addrOf e = none := by
  simp [addrOf, h, isReplaceable, isParamReplaceable]

theorem eph_not_repl (k : Nat) (h : isEphemeral k = true) :
    isReplaceable k = false ∧ isParamReplaceable k = false := by
  obtain ⟨hr, he, hp⟩ := kind_ranges k
  have := he.mp h
  exact ⟨Bool.eq_false_iff.mpr fun h' => by have := hr.mp h'; omega,
    Bool.eq_false_iff.mpr fun h' => by have := hp.mp h'; omega⟩

theorem eph_no_addr (e : EventRec) (h : isEphemeral e.kind = true) : addrOf e = none := by
  simp [addrOf, eph_not_repl e.kind h]

/-- removing from the view `t` what lies at the offset of a committed victim is filtering `t` by the victim predicate, if
offsets identify committed entries and victims in `t` are committed -/
theorem remove_victims (c t : List SEv) (p : SEv → Bool)
    (h : ∀ x ∈ t, ∀ v ∈ c, v.off = x.off → v = x) (hp : ∀ x ∈ t, p x = true → x ∈ c) :
    (t.filter fun x => !((c.filter p).any fun v => v.off == x.off)) = t.filter fun x => !p x := by
  apply List.filter_congr
  intro x hx
  congr 1
  by_cases hpx : p x = true
  · rw [hpx]
    simp only [List.any_eq_true, List.mem_filter, beq_iff_eq]
    exact ⟨x, ⟨hp x hx hpx, hpx⟩, rfl⟩
  · have hpf : p x = false := by simpa using hpx
    rw [hpf]
    simp only [List.any_eq_false, List.mem_filter, beq_iff_eq, and_imp]
    intro v hv hpv hoff
    have := h x hx v hv hoff
    subst this
    rw [hpv] at hpf; cases hpf

/-- whatever the kind class, the scan selects the committed holders of the address not newer than `u` -/
theorem removeAt_scan (c t : List SEv) (k : Nat) (a d0 : Bytes) (u : Nat) :
    removeAt c t k a (normD k d0) u =
      t.filter fun y => !((c.filter fun v => atAddr (k, a, normD k d0) v.e && decide (v.e.createdAt ≤ u)).any
        fun v => v.off == y.off) := by
  unfold removeAt normD
  by_cases h1 : isReplaceable k = true
  · simp only [h1, if_true, removeReplaceable, atAddr_repl k a h1]
  · have h1' : isReplaceable k = false := by simpa using h1
    simp only [h1, Bool.false_eq_true, if_false]
    by_cases h2 : isParamReplaceable k = true
    · simp only [h2, if_true, removeParam, atAddr_param k a d0 h2]
    · -- no event has such an address: nothing is selected, nothing goes
      simp only [h2, Bool.false_eq_true, if_false, atAddr_none k a d0 h1' (by simpa using h2), Bool.false_and]
      have : (c.filter fun _ => false) = [] := List.filter_eq_nil_iff.mpr fun _ _ => Bool.false_ne_true
      rw [this]
      exact (List.filter_eq_self.mpr fun _ _ => rfl).symm

theorem mem_removeAt (c t : List SEv) (k : Nat) (a d0 : Bytes) (u : Nat) (x : SEv) :
    x ∈ removeAt c t k a (normD k d0) u ↔
      x ∈ t ∧ ∀ v ∈ c, atAddr (k, a, normD k d0) v.e = true → v.e.createdAt ≤ u → v.off ≠ x.off := by
  simp only [removeAt_scan, List.mem_filter, Bool.not_eq_true', List.any_eq_false, Bool.and_eq_true,
    decide_eq_true_eq, beq_iff_eq, and_imp]

theorem delTag_foreign (c : List SEv) (hu : Uniq c) (req : EventRec) (tag : List Bytes) (st st' : DelSt)
    (h : delTag c req tag st = .ok st') (v : SEv) (hvc : v ∈ c) (hv : v ∈ st.live)
    (hpk : v.e.pubkey ≠ req.pubkey) : v ∈ st'.live := by
  rcases delTag_cases c req tag st st' h with rfl | ⟨id, _, ⟨_, rfl⟩ | ⟨t, hf, ht, rfl⟩⟩ | ⟨k, d, rfl⟩
  · exact hv
  · exact hv
  · obtain ⟨htc, hid⟩ := findById_some_mem _ _ _ hf
    refine (mem_removeId ..).mpr ⟨hv, fun hvid => hpk ?_⟩
    rw [hu.id v hvc t htc (hvid.trans hid.symm)]; exact ht
  · refine (mem_removeAt ..).mpr ⟨hv, fun w hw hat _ hoff => hpk ?_⟩
    rw [← hu.off w hw v hvc hoff]; exact addrOf_author _ _ _ _ ((atAddr_eq_true _ _).mp hat)

theorem delTag_keeps_request (c : List SEv) (req : EventRec) (off : Nat) (hoff : ∀ v ∈ c, v.off ≠ off)
    (tag : List Bytes) (st st' : DelSt) (h : delTag c req tag st = .ok st') (hm : (⟨off, req⟩ : SEv) ∈ st.live) :
    (⟨off, req⟩ : SEv) ∈ st'.live := by
  rcases delTag_cases c req tag st st' h with rfl | ⟨id, hid, ⟨_, rfl⟩ | ⟨t, _, _, rfl⟩⟩ | ⟨k, d, rfl⟩
  · exact hm
  · exact hm
  · exact (mem_removeId ..).mpr ⟨hm, fun h => hid h.symm⟩
  · exact (mem_removeAt ..).mpr ⟨hm, fun v hv _ _ => hoff v hv⟩

/-- pre-removal takes out the holders of the event's address not newer than it and reports whether a newer one remains -/
theorem preRemove_eq (c : List SEv) (hu : Uniq c) (e : EventRec) :
    preRemove c e =
      match addrOf e with
      | some k => (c.filter fun x => !(atAddr k x.e && decide (x.e.createdAt ≤ e.createdAt)),
                   c.any fun x => atAddr k x.e && !decide (x.e.createdAt ≤ e.createdAt))
      | none => (c, false) := by
  have hoff : ∀ x ∈ c, ∀ v ∈ c, v.off = x.off → v = x := fun x hx v hv hh => hu.off v hv x hx hh
  unfold preRemove addrOf
  by_cases h1 : isReplaceable e.kind = true
  · simp only [h1, if_true]
    simp only [removeReplaceable]
    rw [remove_victims c c _ hoff fun x hx _ => hx]
    simp only [atAddr_repl e.kind e.pubkey h1]
    rw [any_filter_not c (fun x => x.e.pubkey == e.pubkey && x.e.kind == e.kind)]
  · simp only [h1, Bool.false_eq_true, if_false]
    by_cases h2 : isParamReplaceable e.kind = true
    · simp only [h2, if_true]
      cases hd : getValue e.tags KEY_D with
      | none => rfl
      | some d =>
        simp only [Option.map_some]
        simp only [removeParam]
        rw [remove_victims c c _ hoff fun x hx _ => hx]
        simp only [atAddr_param e.kind e.pubkey d h2]
        rw [any_filter_not c (fun x => isParamHolder x.e e.kind e.pubkey d)]
    · simp only [h2, Bool.false_eq_true, if_false]

theorem mem_preRemove (c : List SEv) (hu : Uniq c) (e : EventRec) (x : SEv) :
    x ∈ (preRemove c e).1 ↔
      x ∈ c ∧ ¬ (addrOf x.e = addrOf e ∧ addrOf e ≠ none ∧ x.e.createdAt ≤ e.createdAt) := by
  rw [preRemove_eq c hu e]
  cases hk : addrOf e with
  | none => exact ⟨fun h => ⟨h, fun h' => h'.2.1 rfl⟩, fun h => h.1⟩
  | some k =>
    -- the filter's test, read as a proposition: `x` does not hold `k`, or it is newer
    rw [List.mem_filter, Bool.not_eq_true', Bool.and_eq_false_iff, ← Bool.not_eq_true, atAddr_eq_true,
      decide_eq_false_iff_not]
    exact and_congr_right fun _ =>
      ⟨fun h h' => h.elim (· h'.1) (· h'.2.2), fun h => by
        by_cases ha : addrOf x.e = some k
        · exact .inr fun hle => h ⟨ha, nofun, hle⟩
        · exact .inl ha⟩

theorem preRemove_replaced_iff (c : List SEv) (hu : Uniq c) (e : EventRec) :
    (preRemove c e).2 = true ↔
      ∃ h ∈ c, addrOf h.e = addrOf e ∧ addrOf e ≠ none ∧ e.createdAt < h.e.createdAt := by
  rw [preRemove_eq c hu e]
  cases hk : addrOf e with
  | none => exact ⟨nofun, fun ⟨_, _, _, h, _⟩ => absurd rfl h⟩
  | some k =>
    simp only [List.any_eq_true, Bool.and_eq_true, atAddr_eq_true, Bool.not_eq_true', decide_eq_false_iff_not,
      Nat.not_le]
    exact ⟨fun ⟨h, hc, ha, hlt⟩ => ⟨h, hc, ha, nofun, hlt⟩, fun ⟨h, hc, ha, _, hlt⟩ => ⟨h, hc, ha, hlt⟩⟩

theorem preRemove_foreign (c : List SEv) (hu : Uniq c) (e : EventRec) (v : SEv) (hv : v ∈ c)
    (hpk : v.e.pubkey ≠ e.pubkey) : v ∈ (preRemove c e).1 := by
  refine (mem_preRemove c hu e v).mpr ⟨hv, fun ⟨ha, hne, _⟩ => ?_⟩
  obtain ⟨⟨k, a, d⟩, hk⟩ := Option.ne_none_iff_exists'.mp hne
  exact hpk ((addrOf_author _ k a d (ha.trans hk)).trans (addrOf_author _ k a d hk).symm)

theorem storeEvent_keeps_foreign (s : Store) (hi : Inv s) (e : EventRec) (v : SEv) (hv : v ∈ s.db.live)
    (hpk : v.e.pubkey ≠ e.pubkey) : v ∈ (storeEvent s e).2.db.live := by
  have hu := Uniq_of_Inv s hi
  exact storeEvent_tables s e (v ∈ ·.live) hv
    (fun _ _ => (mem_txnLive s e v).mpr (.inl (preRemove_foreign s.db.live hu e v hv hpk)))
    fun _ tag a b ha h1 => delTag_foreign _ hu e tag a b h1 v hv ha hpk

theorem storeEvent_ok_indexed (s : Store) (hi : Inv s) (e : EventRec) (off : Nat)
    (hok : (storeEvent s e).1 = .ok off) (hne : isEphemeral e.kind = false) :
    (⟨align8 s.end, e⟩ : SEv) ∈ (storeEvent s e).2.db.live := by
  rcases storeEvent_outcomes s e with ⟨hno, _⟩ | ⟨hno, _⟩ | ⟨_, _, st, h, hst⟩
  · exact absurd hok (hno off)
  · exact absurd hok (hno off)
  · rw [h]
    exact hst (fun st => (⟨align8 s.end, e⟩ : SEv) ∈ st.live) ((mem_txnLive s e _).mpr (.inr ⟨hne, rfl⟩))
      fun _ tag a b hm h1 => delTag_keeps_request _ e _ hi.live_off_ne tag a b h1 hm

theorem delAddrGet_put (m : List (AddrKey × Nat)) (k k' : AddrKey) (t : Nat) :
    delAddrGet (delAddrPut m k t) k' = if k' = k then some t else delAddrGet m k' := by
  unfold delAddrGet
  induction m with
  | nil =>
    rw [delAddrPut, List.find?_cons]
    by_cases h : k' = k
    · rw [if_pos h, h, beq_self_eq_true]; rfl
    · rw [if_neg h, beq_false_of_ne (Ne.symm h)]
  | cons x xs ih =>
    rw [delAddrPut]
    by_cases hx : x.1 = k
    · -- the entry of `k` is overwritten in place
      rw [if_pos (beq_iff_eq.mpr hx), List.find?_cons, List.find?_cons]
      by_cases h : k' = k
      · rw [if_pos h, h, beq_self_eq_true]; rfl
      · rw [if_neg h, beq_false_of_ne (Ne.symm h), hx, beq_false_of_ne (Ne.symm h)]
    · rw [if_neg (by simpa using hx), List.find?_cons, List.find?_cons]
      by_cases hxk' : x.1 = k'
      · rw [beq_iff_eq.mpr hxk', if_neg (hxk' ▸ hx)]
      · rw [beq_false_of_ne hxk']; exact ih

theorem laterTime_cases (da : List (AddrKey × Nat)) (k : AddrKey) (t : Nat) :
    t ≤ laterTime da k t ∧ (∀ p, delAddrGet da k = some p → p ≤ laterTime da k t) ∧
      (laterTime da k t = t ∨ delAddrGet da k = some (laterTime da k t)) := by
  unfold laterTime
  cases h : delAddrGet da k with
  | none => exact ⟨Nat.le_refl _, nofun, .inl rfl⟩
  | some p =>
    dsimp only
    split
    · exact ⟨by omega, fun _ hq => by cases hq; exact Nat.le_refl _, .inr rfl⟩
    · exact ⟨Nat.le_refl _, fun _ hq => by cases hq; omega, .inl rfl⟩

theorem mem_addDelId (di : List Bytes) (id x : Bytes) : x ∈ addDelId di id ↔ x ∈ di ∨ x = id := by
  unfold addDelId
  split
  · rename_i h
    exact ⟨.inl, fun h' => h'.elim (fun hx => hx) fun e => by rw [e]; simpa using h⟩
  · rw [List.mem_append, List.mem_singleton]

theorem MarkersLe.refl (di : List Bytes) (da : List (AddrKey × Nat)) : MarkersLe di di da da :=
  ⟨fun _ h => h, fun _ t h => ⟨t, Nat.le_refl _, h⟩⟩

theorem MarkersLe.trans {di di' di'' : List Bytes} {da da' da'' : List (AddrKey × Nat)}
    (a : MarkersLe di di' da da') (b : MarkersLe di' di'' da' da'') : MarkersLe di di'' da da'' :=
  ⟨fun id hid => b.ids id (a.ids id hid), fun key t hk => by
    obtain ⟨t1, ht1, hk1⟩ := a.times key t hk
    obtain ⟨t2, ht2, hk2⟩ := b.times key t1 hk1
    exact ⟨t2, Nat.le_trans ht1 ht2, hk2⟩⟩

/-- what (part of) a deletion request of `req` may do to the markers: they grow, a new id finds no committed event or one of
the requester's own, addresses of other authors are untouched -/
structure MarkersGrow (c : List SEv) (req : EventRec) (di di' : List Bytes) (da da' : List (AddrKey × Nat)) :
    Prop extends MarkersLe di di' da da' where
  newIds : ∀ id ∈ di', id ∈ di ∨ ∀ t, findById c id = some t → t.e.pubkey = req.pubkey
  foreign : ∀ k a d, a ≠ req.pubkey → delAddrGet da' (k, a, d) = delAddrGet da (k, a, d)

theorem MarkersGrow.refl (c : List SEv) (req : EventRec) (di : List Bytes) (da : List (AddrKey × Nat)) :
    MarkersGrow c req di di da da :=
  ⟨.refl di da, fun _ h => .inl h, fun _ _ _ _ => rfl⟩

theorem MarkersGrow.trans {c : List SEv} {req : EventRec} {di di' di'' : List Bytes}
    {da da' da'' : List (AddrKey × Nat)} (a : MarkersGrow c req di di' da da')
    (b : MarkersGrow c req di' di'' da' da'') : MarkersGrow c req di di'' da da'' :=
  ⟨a.toMarkersLe.trans b.toMarkersLe, fun id hid => (b.newIds id hid).elim (a.newIds id) .inr,
    fun k x d hx => (b.foreign k x d hx).trans (a.foreign k x d hx)⟩

theorem delTag_markers (c : List SEv) (req : EventRec) (tag : List Bytes) (st st' : DelSt)
    (h : delTag c req tag st = .ok st') : MarkersGrow c req st.delIds st'.delIds st.delAddrs st'.delAddrs := by
  have ids : ∀ id, (∀ t, findById c id = some t → t.e.pubkey = req.pubkey) →
      MarkersGrow c req st.delIds (addDelId st.delIds id) st.delAddrs st.delAddrs := fun id hown =>
    ⟨⟨fun x hx => (mem_addDelId _ _ _).mpr (.inl hx), fun _ t hk => ⟨t, Nat.le_refl _, hk⟩⟩,
      fun x hx => ((mem_addDelId _ _ _).mp hx).imp_right fun (hx : x = id) => hx ▸ hown, fun _ _ _ _ => rfl⟩
  rcases delTag_cases c req tag st st' h with rfl | ⟨id, _, ⟨hf, rfl⟩ | ⟨t, hf, ht, rfl⟩⟩ | ⟨kind, d0, rfl⟩
  · exact .refl ..
  · exact ids id fun t' h' => by rw [hf] at h'; cases h'
  · exact ids id fun t' h' => by rw [hf] at h'; cases h'; exact ht
  · refine ⟨⟨fun _ hx => hx, fun key t hk => ?_⟩, fun _ hx => .inl hx, fun k a d ha => ?_⟩
    · rw [delAddrGet_put]
      by_cases hkey : key = (kind, req.pubkey, normD kind d0)
      · subst hkey
        rw [if_pos rfl]
        exact ⟨_, (laterTime_cases ..).2.1 t hk, rfl⟩
      · rw [if_neg hkey]; exact ⟨t, Nat.le_refl _, hk⟩
    · rw [delAddrGet_put, if_neg]
      intro hh; injection hh with _ h2; injection h2 with h3 _; exact ha h3

theorem handleDeletion_markers (c : List SEv) (req : EventRec) (tags : TagsRec) (st st' : DelSt)
    (h : handleDeletion c req tags st = .ok st') : MarkersGrow c req st.delIds st'.delIds st.delAddrs st'.delAddrs :=
  handleDeletion_preserves c req (fun x => MarkersGrow c req st.delIds x.delIds st.delAddrs x.delAddrs)
    (fun tag a b h0 h1 => h0.trans (delTag_markers c req tag a b h1)) tags st st' (.refl ..) h

theorem handleDeletion_at (c : List SEv) (req : EventRec) (tags : TagsRec) (st st' : DelSt)
    (h : handleDeletion c req tags st = .ok st') (tag : List Bytes) (htag : tag ∈ tags) :
    ∃ st1 st2, delTag c req tag st1 = .ok st2 ∧ MarkersLe st2.delIds st'.delIds st2.delAddrs st'.delAddrs := by
  induction tags generalizing st with
  | nil => cases htag
  | cons t tags ih =>
    obtain ⟨st1, h1, h2⟩ := (handleDeletion_cons_ok c req t tags st st').mp h
    rcases List.mem_cons.mp htag with rfl | hin
    · exact ⟨st, st1, h1, (handleDeletion_markers c req tags st1 st' h2).toMarkersLe⟩
    · exact ih st1 h2 hin

theorem storeEvent_markers (s : Store) (e : EventRec) :
    MarkersGrow s.db.live e s.db.delIds (storeEvent s e).2.db.delIds s.db.delAddrs (storeEvent s e).2.db.delAddrs :=
  storeEvent_tables s e (fun x => MarkersGrow s.db.live e s.db.delIds x.delIds s.db.delAddrs x.delAddrs) (.refl ..)
    (fun _ _ => .refl ..) fun _ tag a b h0 h1 => h0.trans (delTag_markers _ e tag a b h1)

end Pocket
