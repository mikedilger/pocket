import Pocket.Lemmas.Find
import Pocket.Lemmas.StoreAddr
/- completeness of `find_events` (C05, C17, C18).  The plans stop a range after `limit` accepted events and move `since` up; the
invariant `Lim` says that then `limit` distinct collected events are at least that new, so every qualifying event stays `Kept`. -/
namespace Pocket

theorem planIds_complete (live : List SEv) (f : FilterRec) (scr : EventRec → Screen)
    (hids : (live.map (·.e.id)).Nodup) (ids : List Bytes) (st : FindState) (hg : Good live f scr st)
    (x : SEv) (hx : x ∈ live) (hxid : x.e.id ∈ ids) (hm : eventMatches f x.e = true) (hs : scr x.e = .match) :
    x ∈ (planIds live f scr ids st).out := by
  induction ids generalizing st with
  | nil => cases hxid
  | cons id rest ih =>
    rw [planIds_cons]
    rcases List.mem_cons.mp hxid with rfl | h
    · -- the id looked up is `x`'s: ids are unique, so the lookup finds `x`
      rw [findById_of_mem _ x hids hx]
      exact (planIds_steps live f scr rest _).subset (collect_self hids hx hg hm hs)
    · split
      · rename_i y hf
        exact ih _ (Good_collect (findById_some_mem _ _ _ hf).1 hg) h
      · exact ih _ hg h

/-- `limit` distinct collected events are no older than `t`: what is older may be left out -/
def Cut (f : FilterRec) (out : List SEv) (t : Nat) : Prop :=
  ∃ S : List SEv, S.Nodup ∧ f.limit ≤ S.length ∧ ∀ s ∈ S, s ∈ out ∧ t ≤ s.e.createdAt

theorem Cut_mono {f : FilterRec} {out out' : List SEv} {t t' : Nat} (h : out ⊆ out') (ht : t' ≤ t) :
    Cut f out t → Cut f out' t' := by
  rintro ⟨S, h1, h2, h3⟩
  exact ⟨S, h1, h2, fun s hs => ⟨h (h3 s hs).1, Nat.le_trans ht (h3 s hs).2⟩⟩

/-- `x` is accounted for: collected, or `limit` collected events are at least as new -/
def Kept (f : FilterRec) (out : List SEv) (x : SEv) : Prop := x ∈ out ∨ Cut f out x.e.createdAt

theorem Kept.mono {f : FilterRec} {out out' : List SEv} {x : SEv} (h : out ⊆ out') : Kept f out x → Kept f out' x
  | .inl hx => .inl (h hx)
  | .inr hc => .inr (Cut_mono h (Nat.le_refl _) hc)

/-- `since` has not been raised, or `limit` collected events are at least as new as it -/
def Lim (f : FilterRec) (st : FindState) : Prop := st.since = f.since ∨ Cut f st.out st.since

theorem Lim_mono (f : FilterRec) (st st' : FindState) (hs : st'.since = st.since) (ho : st.out ⊆ st'.out) :
    Lim f st → Lim f st' := by
  rintro (h | h)
  · exact Or.inl (hs.trans h)
  · exact Or.inr (by rw [hs]; exact Cut_mono ho (Nat.le_refl _) h)

/-- `seen`: the events of this range accepted so far; the loop's count is its length -/
theorem consumeRange_kept (live : List SEv) (f : FilterRec) (scr : EventRec → Screen)
    (hids : (live.map (·.e.id)).Nodup) (stop : Bool) (l : List SEv) (seen : List SEv)
    (hl : ∀ y ∈ l, y ∈ live)
    (hsorted : l.Pairwise (fun a b => a.e.createdAt ≥ b.e.createdAt))
    (hnd : (seen ++ l).Nodup)
    (st : FindState) (hg : Good live f scr st)
    (hseen : ∀ s ∈ seen, s ∈ st.out ∧ ∀ y ∈ l, y.e.createdAt ≤ s.e.createdAt)
    (hsince : ∀ y ∈ l, st.since ≤ y.e.createdAt)
    (hlim : Lim f st) :
    Lim f (consumeRange f scr stop l seen.length st) ∧
    (∀ x ∈ l, eventMatches f x.e = true → scr x.e = .match → (stop = true → ∀ y ∈ l, y = x) →
        Kept f (consumeRange f scr stop l seen.length st).out x) := by
  induction l generalizing seen st with
  | nil => exact ⟨hlim, fun x hx => by cases hx⟩
  | cons a rest ih =>
    have ha := hl a List.mem_cons_self
    have hrest : ∀ y ∈ rest, y ∈ live := fun y hy => hl y (List.mem_cons_of_mem _ hy)
    have hnlt : ¬ a.e.createdAt < st.since := Nat.not_lt.mpr (hsince a List.mem_cons_self)
    rw [List.pairwise_cons] at hsorted
    have hmono : st.out ⊆ (collect f scr a st).out := subset_collect
    have hcs := collect_since f scr a st
    have g := Good_collect (f := f) (scr := scr) ha hg
    have hlimc : Lim f (collect f scr a st) := Lim_mono f st _ hcs hmono hlim
    have hsince' : ∀ y ∈ rest, (collect f scr a st).since ≤ y.e.createdAt :=
      fun y hy => by rw [hcs]; exact hsince y (List.mem_cons_of_mem _ hy)
    rw [consumeRange_cons, if_neg hnlt]
    by_cases hok : eventMatches f a.e = true ∧ scr a.e = .match
    · rw [if_pos hok]
      obtain ⟨hma, hsa⟩ := hok
      have hain : a ∈ (collect f scr a st).out := collect_self hids ha hg hma hsa
      -- the events of this range accepted so far, `a` included
      have hseen' : ∀ s ∈ seen ++ [a], s ∈ (collect f scr a st).out ∧ ∀ y ∈ rest, y.e.createdAt ≤ s.e.createdAt := by
        intro s hs
        rcases List.mem_append.mp hs with hs | hs
        · exact ⟨hmono (hseen s hs).1, fun y hy => (hseen s hs).2 y (List.mem_cons_of_mem _ hy)⟩
        · obtain rfl := List.mem_singleton.mp hs
          exact ⟨hain, fun y hy => hsorted.1 y hy⟩
      have hnd2 : ((seen ++ [a]) ++ rest).Nodup := by rw [List.append_assoc]; exact hnd
      have hlen : seen.length + 1 = (seen ++ [a]).length := by rw [List.length_append, List.length_singleton]
      by_cases hlimit : seen.length + 1 ≥ f.limit
      · rw [if_pos hlimit]
        -- the limit is reached: `limit` distinct events of this range, all at least as new as `a`
        have hcut : Cut f (collect f scr a st).out a.e.createdAt := by
          refine ⟨seen ++ [a], hnd2.sublist (List.sublist_append_left _ _), by rw [← hlen]; exact hlimit, fun s hs => ?_⟩
          refine ⟨(hseen' s hs).1, ?_⟩
          rcases List.mem_append.mp hs with hs' | hs'
          · exact (hseen s hs').2 a List.mem_cons_self
          · obtain rfl := List.mem_singleton.mp hs'; exact Nat.le_refl _
        refine ⟨?_, fun x hx hm hs _ => ?_⟩
        · show _ ∨ _
          split
          · exact Or.inr hcut
          · rw [← hcs]; exact hlimc
        · rcases List.mem_cons.mp hx with rfl | hx'
          · exact Or.inl hain
          · exact Or.inr (Cut_mono (List.Subset.refl _) (hsorted.1 x hx') hcut)
      · rw [if_neg hlimit]
        by_cases hstop : stop = true
        · rw [if_pos hstop]
          refine ⟨hlimc, fun x hx hm hs huniq => ?_⟩
          rw [← huniq hstop a List.mem_cons_self]
          exact Or.inl hain
        · rw [if_neg hstop]
          have := ih (seen ++ [a]) hrest hsorted.2 hnd2 _ g hseen' hsince' hlimc
          rw [← hlen] at this
          refine ⟨this.1, fun x hx hm hs huniq => ?_⟩
          rcases List.mem_cons.mp hx with rfl | hx'
          · exact Or.inl ((consumeRange_steps live f scr stop rest hrest _ _).subset hain)
          · exact this.2 x hx' hm hs (fun h => absurd h hstop)
    · rw [if_neg hok]
      obtain ⟨i1, i2⟩ := ih seen hrest hsorted.2
        (hnd.sublist (List.Sublist.append_left (List.sublist_cons_self a rest) seen)) _ g
        (fun s hs => ⟨hmono (hseen s hs).1, fun y hy => (hseen s hs).2 y (List.mem_cons_of_mem _ hy)⟩) hsince' hlimc
      refine ⟨i1, fun x hx hm hs huniq => ?_⟩
      rcases List.mem_cons.mp hx with rfl | hx'
      · exact absurd ⟨hm, hs⟩ hok
      · exact i2 x hx' hm hs (fun h y hy => huniq h y (List.mem_cons_of_mem _ hy))

theorem planRanges_kept (live : List SEv) (f : FilterRec) (scr : EventRec → Screen)
    (hids : (live.map (·.e.id)).Nodup) (ps : List (Bool × (EventRec → Bool)))
    (st : FindState) (hg : Good live f scr st) (hlim : Lim f st) :
    Lim f (planRanges f scr (probeRanges live f ps) st) ∧
    (∀ sp ∈ ps, ∀ x ∈ live, sp.2 x.e = true → eventMatches f x.e = true → scr x.e = .match →
        (sp.1 = true → ∀ y ∈ live, sp.2 y.e = true → y = x) →
        Kept f (planRanges f scr (probeRanges live f ps) st).out x) := by
  induction ps generalizing st with
  | nil => exact ⟨hlim, fun sp hsp => by cases hsp⟩
  | cons sp rest ih =>
    have hsc := fun y => (scan_mem_iff live sp.2 st.since f.until y).mp
    obtain ⟨c1, c2⟩ := consumeRange_kept live f scr hids sp.1 (scan live sp.2 st.since f.until) []
      scan_subset (scan_sorted _ _ _ _) (scan_nodup live hids sp.2 st.since f.until)
      st hg (fun s hs => by cases hs) (fun y hy => (hsc y hy).2.2.1) hlim
    obtain ⟨i1, i2⟩ := ih _ ((consumeRange_steps live f scr sp.1 _ scan_subset 0 st).good hg) c1
    show Lim f (planRanges f scr (probeRanges live f rest) _) ∧ _
    refine ⟨i1, ?_⟩
    intro sp' hsp' x hx hpx hm hs hu
    obtain ⟨hfs, hfu⟩ := eventMatches_window f x.e hm
    rcases List.mem_cons.mp hsp' with rfl | hin
    · by_cases hge : st.since ≤ x.e.createdAt
      · exact (c2 x ((scan_mem_iff _ _ _ _ _).mpr ⟨hx, hpx, hge, hfu⟩) hm hs
          (fun h y hy => hu h y (hsc y hy).1 (hsc y hy).2.1)).mono (planRanges_steps live f scr rest _).subset
      -- the range was opened above `x`: `since` has moved, so `limit` collected events are newer
      · rcases hlim with h | h
        · exact absurd (h ▸ hfs) hge
        · exact Or.inr (Cut_mono (planRanges_steps live f scr (sp' :: rest) st).subset (Nat.le_of_not_le hge) h)
    · exact i2 sp' hin x hx hpx hm hs hu

theorem consumeScrape_kept (live : List SEv) (f : FilterRec) (scr : EventRec → Screen)
    (hids : (live.map (·.e.id)).Nodup) (l : List SEv) (hl : ∀ y ∈ l, y ∈ live)
    (hsorted : l.Pairwise (fun a b => a.e.createdAt ≥ b.e.createdAt))
    (st : FindState) (hg : Good live f scr st)
    (hnew : ∀ s ∈ st.out, ∀ y ∈ l, y.e.createdAt ≤ s.e.createdAt)
    (x : SEv) (hx : x ∈ l) (hm : eventMatches f x.e = true) (hs : scr x.e = .match) :
    Kept f (consumeScrape f scr l st).out x := by
  induction l generalizing st with
  | nil => cases hx
  | cons a rest ih =>
    have ha := hl a List.mem_cons_self
    rw [List.pairwise_cons] at hsorted
    rw [consumeScrape_cons]
    by_cases hfull : st.out.length ≥ f.limit
    · -- full: the output itself is `limit` distinct events, all at least as new as what is still to come
      rw [if_pos hfull]
      exact Or.inr ⟨st.out, hg.nodup.imp (fun h hab => h (by rw [hab])), hfull, fun s hs => ⟨hs, hnew s hs x hx⟩⟩
    · rw [if_neg hfull]
      rcases List.mem_cons.mp hx with rfl | hx'
      · exact Or.inl ((consumeScrape_steps live f scr rest (fun y hy => hl y (List.mem_cons_of_mem _ hy)) _).subset (collect_self hids ha hg hm hs))
      · refine ih (fun y hy => hl y (List.mem_cons_of_mem _ hy)) hsorted.2 _ (Good_collect ha hg) (fun s hs y hy => ?_) hx'
        rcases mem_collect hs with h | rfl
        · exact hnew s h y (List.mem_cons_of_mem _ hy)
        · exact hsorted.1 y hy

theorem findState_collects (live : List SEv) (f : FilterRec) (allow : Bool) (l secs now : Nat)
    (scr : EventRec → Screen) (st : FindState)
    (hids : (live.map (·.e.id)).Nodup) (hau : AddrUniq live) (hsl : SingleLetter f)
    (hst : findState live f allow l secs now scr = some st)
    (x : SEv) (hx : x ∈ live) (hm : eventMatches f x.e = true) (hs : scr x.e = .match) :
    Kept f st.out x := by
  have m := (eventMatches_iff f x.e (SingleLetter.named hsl)).mp hm
  have g0 := Good_init live f scr f.since
  rcases findState_plan live f allow l secs now scr st hst with ⟨hi, rfl⟩ | ⟨ps, rfl, hc⟩ | rfl
  · exact Or.inl (planIds_complete live f scr hids f.ids _ g0 x hx (m.1.resolve_left hi) hm hs)
  · obtain ⟨sp, hsp, hpx, huniq⟩ := hc hsl x.e m
    refine (planRanges_kept live f scr hids ps _ g0 (Or.inl rfl)).2 sp hsp x hx hpx hm hs ?_
    -- a stop-on-first probe selects one replaceable address, and an address has one holder
    intro hstop y hy hpy
    obtain ⟨hrep, hsame⟩ := huniq hstop
    have : addrOf y.e = addrOf x.e := (repl_holder_iff x.e y.e hrep).mp (hsame y.e hpy)
    exact hau y hy x hx this
      (by rw [this, (addrOf_eq_some x.e _ _ []).mpr ⟨rfl, rfl, .inl ⟨hrep, rfl⟩⟩]; nofun)
  · exact consumeScrape_kept live f scr hids _ scan_subset
      (scan_sorted _ _ _ _) _ g0 (fun s hs => by cases hs) x
      ((scan_mem_iff _ _ _ _ _).mpr ⟨hx, rfl, m.2.2.2.1, m.2.2.2.2.1⟩) hm hs

/-- if `k` distinct members of a newest-first list are no older than `t`, its first `k` members are no older than `t` -/
theorem take_newest (k : Nat) (sorted : List SEv) (t : Nat)
    (hs : sorted.Pairwise (fun a b => a.e.createdAt ≥ b.e.createdAt))
    (S : List SEv) (hnd : S.Nodup) (hlen : k ≤ S.length) (hS : ∀ s ∈ S, s ∈ sorted ∧ t ≤ s.e.createdAt) :
    (sorted.take k).length = k ∧ ∀ y ∈ sorted.take k, t ≤ y.e.createdAt := by
  have hlenL : (sorted.take k).length = k :=
    List.length_take_of_le (Nat.le_trans hlen (hnd.length_le_of_subset fun s hs => (hS s hs).1))
  refine ⟨hlenL, fun y hy => ?_⟩
  -- were `y` in the cut older than `t`, all of `S` would stand before `y`, inside a cut of `k` that also holds `y`
  apply Classical.byContradiction
  intro hlt
  obtain ⟨L1, L2, hL12⟩ := List.append_of_mem hy
  rw [← List.take_append_drop k sorted, hL12, List.append_assoc, List.pairwise_append] at hs
  obtain ⟨_, hyR, _⟩ := hs
  rw [List.cons_append, List.pairwise_cons] at hyR
  have hsub : ∀ s ∈ S, s ∈ L1 := by
    intro s hs
    obtain ⟨hin, hts⟩ := hS s hs
    rw [← List.take_append_drop k sorted, hL12, List.append_assoc] at hin
    rcases List.mem_append.mp hin with h | h
    · exact h
    · rcases List.mem_cons.mp h with h | h
      · exact absurd (h ▸ hts) hlt
      · exact absurd (Nat.le_trans hts (hyR.1 s h)) hlt
  -- `k ≤ |S| ≤ |L1|`, and the cut of `k` is `L1 ++ y :: L2`
  have h1 : k ≤ L1.length := Nat.le_trans hlen (hnd.length_le_of_subset hsub)
  rw [hL12, List.length_append, List.length_cons] at hlenL
  omega

/-- `sorted`: the output newest first.  An event kept but outside the cut leaves a cut of exactly `limit` events, none older -/
theorem Kept.newest {f : FilterRec} {out : List SEv} {x : SEv} (h : Kept f out x) (sorted : List SEv)
    (hp : sorted.Perm out) (hs : sorted.Pairwise (fun a b => a.e.createdAt ≥ b.e.createdAt))
    (hnot : x ∉ sorted.take f.limit) :
    (sorted.take f.limit).length = f.limit ∧ ∀ y ∈ sorted.take f.limit, x.e.createdAt ≤ y.e.createdAt := by
  rcases h with hx | ⟨S, hnd, hlen, hS⟩
  · -- `x` is behind the cut: the cut is full, and in a sorted list nothing before `x` is older
    have hx := hp.mem_iff.mpr hx
    rw [← List.take_append_drop f.limit sorted] at hx hs
    have hxR := (List.mem_append.mp hx).resolve_left hnot
    have hpos := List.length_pos_of_mem hxR
    rw [List.length_drop] at hpos
    exact ⟨List.length_take_of_le (Nat.le_of_lt (Nat.lt_of_sub_pos hpos)), fun y hy => (List.pairwise_append.mp hs).2.2 y hy x hxR⟩
  · exact take_newest f.limit sorted _ hs S hnd hlen fun s hs => ⟨hp.mem_iff.mpr (hS s hs).1, (hS s hs).2⟩

theorem findEvents_newest (live : List SEv) (f : FilterRec) (allow : Bool) (l secs now : Nat)
    (scr : EventRec → Screen) (out : List SEv) (red : Bool)
    (hids : (live.map (·.e.id)).Nodup) (hau : AddrUniq live) (hsl : SingleLetter f)
    (h : findEvents live f allow l secs now scr = .ok out red)
    (x : SEv) (hx : x ∈ live) (hm : eventMatches f x.e = true) (hs : scr x.e = .match)
    (hnot : x ∉ out) :
    out.length = f.limit ∧ ∀ y ∈ out, x.e.createdAt ≤ y.e.createdAt := by
  obtain ⟨st, hst, rfl, _⟩ := findEvents_ok live f allow l secs now scr out red h
  exact (findState_collects live f allow l secs now scr st hids hau hsl hst x hx hm hs).newest _
    (sortOut_perm _) (sortOut_sorted _) hnot

theorem findEvents_complete (live : List SEv) (f : FilterRec) (allow : Bool) (l secs now : Nat)
    (scr : EventRec → Screen) (out : List SEv) (red : Bool)
    (hids : (live.map (·.e.id)).Nodup) (hau : AddrUniq live) (hsl : SingleLetter f)
    (h : findEvents live f allow l secs now scr = .ok out red) (hshort : out.length < f.limit)
    (x : SEv) (hx : x ∈ live) (hm : eventMatches f x.e = true) (hs : scr x.e = .match) : x ∈ out :=
  Classical.byContradiction fun hnot =>
    Nat.ne_of_lt hshort (findEvents_newest live f allow l secs now scr out red hids hau hsl h x hx hm hs hnot).1

/-- the facts about the store state that completeness needs -/
structure Ctx (live : List SEv) (f : FilterRec) (scr : EventRec → Screen) : Prop where
  ids : (live.map (·.e.id)).Nodup
  addr : AddrUniq live
  nolimit : live.length < f.limit

/-- with fewer events in the index than `limit` no answer reaches `limit`; `C05.findEvents_exact` is the case of a reachable store -/
theorem findEvents_exact_on_index (live : List SEv) (f : FilterRec) (allow : Bool) (l secs now : Nat)
    (scr : EventRec → Screen) (out : List SEv) (red : Bool)
    (hids : (live.map (·.e.id)).Nodup) (hau : AddrUniq live) (hsl : SingleLetter f)
    (h : findEvents live f allow l secs now scr = .ok out red) (hnl : live.length < f.limit) (x : SEv) :
    x ∈ out ↔ (x ∈ live ∧ eventMatches f x.e = true ∧ scr x.e = .match) := by
  obtain ⟨hsub, hnd, _, _⟩ := findEvents_sound live f allow l secs now scr out red h
  have hnd' : out.Nodup := hnd.imp fun h hab => h (by rw [hab])
  exact ⟨hsub x, fun ⟨hx, hm, hs⟩ => findEvents_complete live f allow l secs now scr out red hids hau hsl h
    (Nat.lt_of_le_of_lt (hnd'.length_le_of_subset fun y hy => (hsub y hy).1) hnl) x hx hm hs⟩

end Pocket
