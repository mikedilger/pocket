import Pocket.Lemmas.StoreInv
import Pocket.Model.Crash
import Pocket.Spec.StoreInv
/- reading back by offset and by id; without a rebuild the map is only appended to; the durable states of a store call
(`Model/Crash.lean`) -/
namespace Pocket

theorem offs_nodup (log : List SEv) (hs : log.Pairwise (fun a b => a.off < b.off)) : (log.map (·.off)).Nodup :=
  List.pairwise_map.mpr (hs.imp Nat.ne_of_lt)

theorem getByOffset_of_mem (s : Store) (hi : Inv s) (x : SEv) (hx : x ∈ s.log) :
    getByOffset s x.off = some x.e := by
  unfold getByOffset
  simp only [Nat.not_le.mpr (hi.off_lt_end x hx), if_false, find?_key (fun y : SEv => y.off) s.log (offs_nodup _ hi.logSorted) x hx, Option.map_some]

theorem nodup_ids_inj (l : List SEv) (h : (l.map (·.e.id)).Nodup) :
    ∀ x ∈ l, ∀ y ∈ l, x.e.id = y.e.id → x = y :=
  key_inj (fun y : SEv => y.e.id) l h

theorem Uniq_of_Inv (s : Store) (hi : Inv s) : Uniq s.db.live :=
  ⟨fun x hx y hy =>
     key_inj (fun y : SEv => y.off) s.log (offs_nodup _ hi.logSorted) x (hi.liveInLog x hx) y (hi.liveInLog y hy),
   nodup_ids_inj _ hi.liveIds⟩

theorem getById_of_mem (s : Store) (hi : Inv s) (x : SEv) (hx : x ∈ s.db.live) :
    getById s x.e.id = some x.e := by
  unfold getById
  rw [findById_of_mem _ x hi.liveIds hx]; rfl

theorem getById_eq_some_iff (s : Store) (hi : Inv s) (id : Bytes) (ev : EventRec) :
    getById s id = some ev ↔ ev ∈ s.db.live.map (·.e) ∧ ev.id = id := by
  unfold getById
  constructor
  · intro h
    obtain ⟨x, hf, rfl⟩ := Option.map_eq_some_iff.mp h
    obtain ⟨hx, hid⟩ := findById_some_mem _ _ _ hf
    exact ⟨List.mem_map.mpr ⟨x, hx, rfl⟩, hid⟩
  · rintro ⟨hm, rfl⟩
    obtain ⟨x, hx, rfl⟩ := List.mem_map.mp hm
    rw [findById_of_mem _ x hi.liveIds hx]; rfl

theorem NoRebuild_cons (op : Op) (ops : List Op) : NoRebuild (op :: ops) ↔ op ≠ .rebuild ∧ NoRebuild ops := by
  cases op <;> simp [NoRebuild]

theorem step_log_append (s : Store) (op : Op) (hop : op ≠ .rebuild) : ∃ l, (step s op).log = s.log ++ l := by
  rcases step_cases s op with ⟨e, _, h⟩ | ⟨l, _, h⟩ | ⟨h, _⟩
  · rw [h]
    rcases storeEvent_outcomes s e with ⟨_, h1⟩ | ⟨_, h1⟩ | ⟨_, _, _, h1, _⟩ <;> rw [h1]
    · exact ⟨[], (List.append_nil _).symm⟩
    · exact ⟨_, rfl⟩
    · exact ⟨_, rfl⟩
  · rw [h]; exact ⟨[], (List.append_nil _).symm⟩
  · exact absurd h hop

theorem run_log_append (s : Store) (ops : List Op) (hno : NoRebuild ops) : ∃ l, (run s ops).log = s.log ++ l := by
  induction ops generalizing s with
  | nil => exact ⟨[], (List.append_nil _).symm⟩
  | cons op ops ih =>
    obtain ⟨hop, hno'⟩ := (NoRebuild_cons op ops).mp hno
    obtain ⟨l1, h1⟩ := step_log_append s op hop
    obtain ⟨l2, h2⟩ := ih (step s op) hno'
    exact ⟨l1 ++ l2, by rw [← List.append_assoc, ← h1]; exact h2⟩

theorem step_log_mono (s : Store) (op : Op) (hop : op ≠ .rebuild) (x : SEv) (hx : x ∈ s.log) :
    x ∈ (step s op).log := by
  obtain ⟨l, h⟩ := step_log_append s op hop
  rw [h]; exact List.mem_append_left _ hx

theorem run_log_mono (s : Store) (ops : List Op) (hno : NoRebuild ops) (x : SEv) (hx : x ∈ s.log) :
    x ∈ (run s ops).log := by
  obtain ⟨l, h⟩ := run_log_append s ops hno
  rw [h]; exact List.mem_append_left _ hx

theorem storeCrashStates_cases (s : Store) (e : EventRec) :
    storeCrashStates s e = [s] ∨
    storeCrashStates s e =
      [s, { s with «end» := align8 s.end }, { appendLog s e with db := s.db }, (storeEvent s e).2] := by
  unfold storeCrashStates
  cases refusal s.db e with
  | some r => exact .inl rfl
  | none =>
    by_cases hp : (preRemove s.db.live e).2 = true
    · rw [if_pos hp]; exact .inl rfl
    · rw [if_neg hp]; exact .inr rfl

end Pocket
