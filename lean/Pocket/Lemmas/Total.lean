import Pocket.Lemmas.Outcome
import Pocket.Lemmas.Digits
import Pocket.Model.ParseFilter
/- Not only totality: one lemma `f_all : (f …).All P` per parser function says that `f` does not panic AND that the invariant `P` holds
of what it returns.  Each proof walks the definition once: `outcome_step` at a call, `All.both` at an `if` (`All.ite` where what
follows needs the test; not `split`: the chains are long), `split` at a `match` on data.  A loop invariant is a structure
(`EvInv`, `FlInv`); a step rebuilds it with `{ hi with field := … }`. -/
namespace Pocket

theorem nextCodePoint_all (inp : Bytes) :
    (nextCodePoint inp).All fun r => ∀ cp size, r = some (cp, size) → 1 ≤ size ∧ size ≤ inp.length := by
  unfold nextCodePoint
  repeat' split
  -- the leaves: an error; a code point of `k` bytes after `k` bytes were matched; the end of the input
  all_goals first
    | exact trivial
    | (intro _ _ h; cases h; simp only [List.length_cons]; omega)
    | (intro _ _ h; cases h)

theorem jsonEscapeF_all (fuel : Nat) (inp : Bytes) : (jsonEscapeF fuel inp).All fun _ => True := by
  induction fuel generalizing inp with
  | zero => trivial
  | succ fuel ih =>
    unfold jsonEscapeF
    outcome_step nextCodePoint_all inp with (_ | ⟨cp, size⟩) -
    · trivial
    · split
      · trivial
      · outcome_step ih _ with r -
        trivial

theorem jsonEscape_all (inp : Bytes) : (jsonEscape inp).All fun _ => True := jsonEscapeF_all _ _

theorem unescF_all (fuel : Nat) (inp : Bytes) (st : EscSt) (pos cap : Nat) (hp : pos ≤ cap) :
    (unescF fuel inp st pos cap).All fun r => pos + r.2.length ≤ cap ∧ r.1 ≤ inp.length := by
  induction fuel generalizing inp st pos with
  | zero => exact ⟨hp, Nat.zero_le _⟩
  | succ fuel ih =>
    have hend : (Outcome.ok (0, []) : Outcome (Nat × Bytes)).All fun r => pos + r.2.length ≤ cap ∧ r.1 ≤ inp.length :=
      ⟨hp, Nat.zero_le _⟩
    unfold unescF
    -- not `outcome_step`: its `dsimp only` would inline the `let emit`, kept as one name here
    refine (nextCodePoint_all inp).elim ?_ trivial
    rintro (_ | ⟨cp, size⟩) hs
    · exact hend
    · have hs := hs cp size rfl
      dsimp -zeta only
      extract_lets emit
      -- every continuation goes through `emit`: the bounds are shown of it, once
      have hemit : ∀ w st', (emit w st').All fun r => pos + r.2.length ≤ cap ∧ r.1 ≤ inp.length := by
        intro w st'
        refine .ite (fun _ => trivial) fun _ => ?_
        outcome_step ih (inp.drop size) st' _ (by omega) with ⟨c, o⟩ hr
        simp only [Outcome.All, List.length_append, List.length_drop] at hr ⊢
        omega
      clear_value emit
      -- each state's chain, leaf by leaf: an error, the closing quote (`hend`), or an `emit`
      cases st with
      | normal => exact .both (hemit _ _) <| .both (hemit _ _) <| .both hend trivial
      | inesc =>
        exact .both trivial <| .both (hemit _ _) <| .both (hemit _ _) <| .both (hemit _ _) <| .both (hemit _ _) <|
          .both (hemit _ _) <| .both (hemit _ _) <| .both (hemit _ _) trivial
      | uesc digit total =>
        cases hexVal cp with
        | none => trivial
        | some dv => exact .both (.both trivial (hemit _ _)) (hemit _ _)

theorem jsonUnescape_all (inp : Bytes) (cap : Nat) :
    (jsonUnescape inp cap).All fun r => r.2.length ≤ cap ∧ r.1 ≤ inp.length :=
  (unescF_all _ inp .normal 0 cap (Nat.zero_le _)).mono fun _ h => by omega

theorem verifyChar_all (c : Nat) (inp : Bytes) : (verifyChar c inp).All fun _ => True := by
  unfold verifyChar; split
  · trivial
  · exact .both trivial trivial

theorem eatColon_all (inp : Bytes) : (eatColon inp).All fun _ => True := by
  unfold eatColon
  outcome_step verifyChar_all 58 _ with r -
  trivial

theorem nextObjectField_all (inp : Bytes) : (nextObjectField inp).All fun _ => True := by
  unfold nextObjectField; split
  · trivial
  · exact .both trivial <| .both trivial trivial

theorem unhexPairs_all : ∀ inp : Bytes, (unhexPairs inp).All fun v => v.length * 2 = inp.length
  | [] => rfl
  | [_] => trivial
  | h :: l :: rest => by
    unfold unhexPairs; split
    · outcome_step unhexPairs_all rest with r hr
      simp only [Outcome.All, List.length_cons]; omega
    · trivial

theorem readHex_all (n : Nat) (inp : Bytes) : (readHex n inp).All fun v => v.length = n := by
  unfold readHex
  exact .ite (fun _ => trivial) fun h => (unhexPairs_all inp).mono fun v hv => by omega

theorem readHexField_all (n : Nat) (inp : Bytes) : (readHexField n inp).All fun r => r.1.length = n := by
  unfold readHexField
  outcome_step verifyChar_all 34 inp with r -
  refine .both trivial ?_
  outcome_step readHex_all n _ with v hv
  outcome_step verifyChar_all 34 _ with r' -
  exact hv

theorem digitLoop_all (max : Nat) (inp : Bytes) (acc : Nat) (any : Bool) (hacc : acc ≤ max) :
    (digitLoop max inp acc any).All fun r => r.1 ≤ max := by
  induction inp generalizing acc any with
  | nil => exact hacc
  | cons b rest ih =>
    unfold digitLoop
    exact .both (.ite (fun _ => trivial) fun _ => ih _ _ (by omega)) hacc

theorem readU64_all (inp : Bytes) : (readU64 inp).All fun r => r.1 < 18446744073709551616 := by
  unfold readU64
  rw [readU64Loop_eq]
  outcome_step digitLoop_all U64MAX inp 0 false (Nat.zero_le _) with ⟨v, any, rest⟩ hv
  exact .both (Nat.lt_succ_of_le hv) trivial

theorem readKind_all (inp : Bytes) : (readKind inp).All fun r => r.1 < 65536 := by
  unfold readKind
  rw [readKindLoop_eq]
  outcome_step digitLoop_all 65535 inp 0 false (Nat.zero_le _) with ⟨v, any, rest⟩ hv
  exact .both (Nat.lt_succ_of_le hv) trivial

theorem burnString_all : ∀ inp : Bytes, (burnString inp).All fun _ => True
  | [] => trivial
  | [b] => by unfold burnString; exact .both trivial trivial
  | b :: c :: rest => by
    unfold burnString
    exact .both trivial <| .both (burnString_all rest) (burnString_all (c :: rest))

theorem burnTagLoop_all (fuel : Nat) (inp : Bytes) : (burnTagLoop fuel inp).All fun _ => True := by
  induction fuel generalizing inp with
  | zero => trivial
  | succ fuel ih =>
    unfold burnTagLoop; split
    · trivial
    · refine .both ?_ (verifyChar_all _ _)
      outcome_step verifyChar_all 34 _ with r -
      outcome_step burnString_all r with r' -
      exact ih _

theorem burnTag_all (inp : Bytes) : (burnTag inp).All fun _ => True := by
  unfold burnTag; split
  · trivial
  · refine .both trivial ?_
    outcome_step verifyChar_all 34 _ with r -
    outcome_step burnString_all r with r' -
    exact burnTagLoop_all _ _

theorem countTagsLoop_all (fuel : Nat) (inp : Bytes) (n : Nat) : (countTagsLoop fuel inp n).All fun _ => True := by
  induction fuel generalizing inp n with
  | zero => trivial
  | succ fuel ih =>
    unfold countTagsLoop; split
    · trivial
    · refine .both trivial <| .both ?_ trivial
      outcome_step verifyChar_all 91 _ with r -
      outcome_step burnTag_all r with r' -
      exact ih _ _

theorem countTags_all (inp : Bytes) : (countTags inp).All fun _ => True := by
  unfold countTags; split
  · trivial
  · refine .both trivial <| .both ?_ trivial
    outcome_step burnTag_all _ with r -
    exact countTagsLoop_all _ _ _

theorem burnLit_all (lit inp : Bytes) : (burnLit lit inp).All fun _ => True :=
  .both trivial trivial

theorem burn_all (fuel : Nat) : ∀ (inp : Bytes) (d : Nat),
    ((burnValue fuel inp d).All fun _ => True) ∧ ((burnArray fuel inp d).All fun _ => True) ∧
      (burnObject fuel inp d).All fun _ => True := by
  induction fuel with
  | zero => exact fun _ _ => ⟨trivial, trivial, trivial⟩
  | succ fuel ih =>
    intro inp d
    refine ⟨?_, ?_, ?_⟩
    · unfold burnValue
      refine .both trivial ?_
      split
      · trivial
      · -- a string, an array, an object, `true`, `false`, `null`, a number (two tests), or no value
        exact .both (burnString_all _) <| .both (ih _ _).2.1 <| .both (ih _ _).2.2 <| .both (burnLit_all _ _) <|
          .both (burnLit_all _ _) <| .both (burnLit_all _ _) <| .both trivial <| .both trivial trivial
    · unfold burnArray; split
      · trivial
      · refine .both trivial ?_
        outcome_step (ih _ _).1 with r -
        exact (ih _ _).2.1
    · unfold burnObject; split
      · trivial
      · refine .both trivial ?_
        outcome_step verifyChar_all 34 _ with r -
        outcome_step burnString_all r with r' -
        outcome_step eatColon_all r' with r'' -
        outcome_step (ih _ _).1 with r3 -
        exact (ih _ _).2.2

theorem burnKeyValue_all (inp : Bytes) (d : Nat) : (burnKeyValue inp d).All fun _ => True := by
  unfold burnKeyValue
  outcome_step verifyChar_all 34 inp with r -
  outcome_step burnString_all r with r' -
  outcome_step eatColon_all r' with r'' -
  exact (burn_all _ _ _).1

theorem readTagStrs_all (fuel : Nat) (inp : Bytes) (outpos cap : Nat) :
    (readTagStrs fuel inp outpos cap).All fun _ => True := by
  induction fuel generalizing inp outpos with
  | zero => trivial
  | succ fuel ih =>
    unfold readTagStrs
    refine .both trivial ?_
    outcome_step jsonUnescape_all inp _ with ⟨inlen, s⟩ -
    split
    · trivial
    · refine .both ?_ <| .both trivial trivial
      outcome_step verifyChar_all 34 _ with r -
      outcome_step ih r _ with ⟨r', ss⟩ -
      trivial

theorem readTag_all (inp : Bytes) (outpos cap : Nat) : (readTag inp outpos cap).All fun _ => True := by
  unfold readTag; split
  · trivial
  · refine .both (.both trivial trivial) ?_
    outcome_step verifyChar_all 34 _ with r -
    exact readTagStrs_all _ _ _ _

/-- how both `read_tags_array` and `parse_json_filter` put a tag section together -/
theorem encodeTags_of_parts (ts : TagsRec) (n : Nat) (offs : List Nat) (hn : ts.length = n)
    (ho : encOffList offs = encOffsets (4 + 2 * n) ts) :
    le16 (4 + 2 * n + tagsBodySize ts) ++ le16 n ++ encOffList offs ++ encTagsBody ts = encodeTags ts := by
  subst hn; rw [ho]; rfl

theorem readTagsLoop_all (fuel : Nat) (inp : Bytes) (k n outpos cap : Nat) (hk : k < n) :
    (readTagsLoop fuel inp k n outpos cap).All fun r =>
      k + r.2.2.length = n ∧ encOffList r.2.1 = encOffsets outpos r.2.2 := by
  induction fuel generalizing inp k outpos with
  | zero => trivial
  | succ fuel ih =>
    unfold readTagsLoop
    refine .both trivial ?_
    outcome_step readTag_all inp outpos cap with ⟨r, t⟩ -
    split
    · trivial
    · refine .both (.ite (fun _ => trivial) fun hne => ?_) <| .both ?_ trivial
      · exact ⟨by simp only [List.length_cons, List.length_nil]; omega, by simp [encOffList, encOffsets]⟩
      · outcome_step verifyChar_all 91 _ with r' -
        refine .ite (fun _ => trivial) fun _ => ?_
        outcome_step ih _ (k + 1) _ (by omega) with ⟨r'', offs, ts⟩ h
        exact ⟨by simp only [List.length_cons]; omega, by simp only [encOffList, encOffsets, h.2]⟩

theorem readTagsArray_all (inp : Bytes) (cap : Nat) :
    (readTagsArray inp cap).All fun r => ∃ ts, r.2 = encodeTags ts ∧ tagsSize ts ≤ 65535 := by
  unfold readTagsArray
  outcome_step verifyChar_all 91 inp with r0 -
  refine .ite (fun _ => trivial) fun _ => ?_
  outcome_step countTags_all _ with numTags -
  refine .ite (fun _ => trivial) fun _ => .ite (fun _ => ?_) fun _ => ?_
  · outcome_step (burn_all _ _ 0).2.1 with r' -
    exact ⟨[], by simp [encodeTags, tagsSize, tagsBodySize, encOffsets, encTagsBody], by simp [tagsSize, tagsBodySize]⟩
  · outcome_step verifyChar_all 91 _ with r1 -
    refine .ite (fun _ => trivial) fun _ => ?_
    outcome_step readTagsLoop_all _ _ 0 numTags _ cap (by omega) with ⟨r', offs, ts⟩ hs
    refine .ite (fun _ => trivial) fun _ => ?_
    have hlen : ts.length = numTags := by omega
    rw [Nat.mul_comm numTags 2] at hs ⊢
    exact ⟨ts, encodeTags_of_parts ts numTags offs hlen hs.2, by unfold tagsSize; rw [hlen]; omega⟩

theorem readContent_all (inp : Bytes) (cap a : Nat) :
    (readContent inp cap a).All fun r => a + 4 + r.2.length ≤ 4294967295 ∧ a + 4 + r.2.length ≤ cap := by
  unfold readContent
  outcome_step verifyChar_all 34 inp with r -
  refine .ite (fun _ => trivial) fun _ => ?_
  outcome_step jsonUnescape_all r _ with ⟨inlen, c⟩ hc
  refine .ite (fun _ => trivial) fun _ => ?_
  simp only [Outcome.All, U32MAX] at *
  omega

@[simp] theorem burnObject_ne_panic (fuel : Nat) (inp : Bytes) (d : Nat) :
    (burnObject fuel inp d = .panic) = False :=
  eq_false (burn_all fuel inp d).2.2.ne_panic

end Pocket
