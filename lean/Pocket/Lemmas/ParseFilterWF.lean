import Pocket.Lemmas.ParseWF
import Pocket.Lemmas.Layout
/- A successful `Filter::from_json` wrote the encoding of a sized filter (C03, C07): counts, lengths and offsets are consistent,
so every accessor is in bounds. -/
namespace Pocket

theorem flArrayField_all (inp : Bytes) : (flArrayField inp).All fun _ => True := by
  unfold flArrayField
  outcome_step verifyChar_all 91 inp with s -
  outcome_step verifyChar_all 93 _ with r' -
  trivial

structure FlInv (st : FlSt) : Prop where
  since : ∀ v, st.since = some v → v < 18446744073709551616
  «until» : ∀ v, st.until = some v → v < 18446744073709551616
  limit : ∀ v, st.limit = some v → v < 4294967296

theorem flMember_all (st : FlSt) (q : Bytes) (hi : FlInv st) : (flMember st q).All fun r => FlInv r.1 := by
  unfold flMember
  outcome_step verifyChar_all 34 q with field -
  refine .ite (fun _ => ?_) fun _ => .ite (fun _ => ?_) fun _ => .ite (fun _ => ?_) fun _ => .ite (fun _ => ?_) fun _ =>
    .ite (fun _ => ?_) fun _ => .ite (fun _ => ?_) fun _ => ?_
  -- the six known members: refused if seen before, then the colon
  all_goals try (refine .ite (fun _ => trivial) fun _ => ?_; outcome_step eatColon_all _ with r -)
  · outcome_step flArrayField_all r with ⟨s, r'⟩ -
    -- only a saved position changed, which the invariant does not mention (also below, and for a tag member)
    exact { hi with }
  · outcome_step flArrayField_all r with ⟨s, r'⟩ -
    exact { hi with }
  · outcome_step flArrayField_all r with ⟨s, r'⟩ -
    exact { hi with }
  · outcome_step readU64_all r with ⟨v, r'⟩ hv
    exact { hi with since := fun _ hw => by cases hw; exact hv }
  · outcome_step readU64_all r with ⟨v, r'⟩ hv
    exact { hi with «until» := fun _ hw => by cases hw; exact hv }
  · outcome_step readU64_all r with ⟨v, r'⟩ hv
    exact { hi with limit := fun _ hw => by cases hw; unfold U32MAX; split <;> omega }
  · split
    · refine .ite (fun _ => ?_) fun _ => ?_
      · refine .ite (fun _ => trivial) fun _ => .ite (fun _ => trivial) fun _ => ?_
        outcome_step eatColon_all _ with r -
        outcome_step verifyChar_all 91 r with r1 -
        outcome_step (burn_all _ r1 0).2.1 with r' -
        exact { hi with }
      · outcome_step burnKeyValue_all q 0 with r' -
        exact hi
    · outcome_step burnKeyValue_all q 0 with r' -
      exact hi

theorem flLoop_all (fuel : Nat) (st : FlSt) (inp : Bytes) (hi : FlInv st) :
    (flLoop fuel st inp).All fun r => FlInv r.1 := by
  induction fuel generalizing st inp with
  | zero => trivial
  | succ fuel ih =>
    unfold flLoop; split
    · trivial
    · refine .ite (fun _ => hi) fun _ => ?_
      outcome_step flMember_all st _ hi with ⟨st', r⟩ h1
      exact ih _ _ h1

theorem copyHex32_all (fuel : Nat) (inp : Bytes) (endPos cap n : Nat) (he : endPos ≤ cap) :
    (copyHex32 fuel inp endPos cap n).All fun vs =>
      (∀ v ∈ vs, v.length = 32) ∧ (n ≤ 65535 → n + vs.length ≤ 65535) ∧ endPos + 32 * vs.length ≤ cap := by
  induction fuel generalizing inp endPos n with
  | zero => trivial
  | succ fuel ih =>
    unfold copyHex32; split
    · trivial
    · refine .ite (fun _ => ⟨nofun, fun h => h, he⟩) fun _ => .ite (fun _ => trivial) fun _ => .ite (fun _ => trivial) fun _ => ?_
      outcome_step readHexField_all 32 _ with ⟨v, r⟩ hv
      refine .ite (fun _ => trivial) fun hn => ?_
      outcome_step ih r (endPos + 32) (n + 1) (by omega) with vs ⟨i1, i2, i3⟩
      refine ⟨List.forall_mem_cons.2 ⟨hv, i1⟩, fun _ => ?_, ?_⟩ <;> simp only [List.length_cons]
      · have := i2 (by omega); omega
      · omega

theorem copyKinds_all (fuel : Nat) (inp : Bytes) (endPos cap n : Nat) :
    (copyKinds fuel inp endPos cap n).All fun ks =>
      (∀ k ∈ ks, k < 65536) ∧ (n ≤ 65535 → n + ks.length ≤ 65535) ∧ (endPos ≤ cap → endPos + 2 * ks.length ≤ cap) := by
  induction fuel generalizing inp endPos n with
  | zero => trivial
  | succ fuel ih =>
    unfold copyKinds; split
    · trivial
    · refine .ite (fun _ => ⟨nofun, fun h => h, id⟩) fun _ => ?_
      outcome_step readU64_all _ with ⟨u, r⟩ -
      refine .ite (fun _ => trivial) fun _ => .ite (fun _ => trivial) fun _ => .ite (fun _ => trivial) fun _ => ?_
      outcome_step ih r (endPos + 2) (n + 1) with ks ⟨i1, i2, i3⟩
      refine ⟨List.forall_mem_cons.2 ⟨by omega, i1⟩, fun _ => ?_, fun _ => ?_⟩ <;> simp only [List.length_cons]
      · have := i2 (by omega); omega
      · have := i3 (by omega); omega

theorem copyTagValues_all (fuel : Nat) (inp : Bytes) (endPos cap count : Nat) (he : endPos ≤ cap) :
    (copyTagValues fuel inp endPos cap count).All fun vs => endPos + strsSize vs ≤ cap := by
  induction fuel generalizing inp endPos count with
  | zero => trivial
  | succ fuel ih =>
    unfold copyTagValues; split
    · trivial
    · refine .ite (fun _ => he) fun _ => ?_
      outcome_step verifyChar_all 34 _ with r -
      refine .ite (fun _ => trivial) fun _ => ?_
      outcome_step jsonUnescape_all r _ with ⟨inlen, s⟩ hs
      refine .ite (fun _ => trivial) fun _ => ?_
      outcome_step ih _ (endPos + 2 + s.length) (count + 1) (by omega) with vs hvs
      simp only [Outcome.All, strsSize]; omega

theorem copyTagField_all (s : Nat × Bytes) (endPos cap : Nat) :
    (copyTagField s endPos cap).All fun t => endPos + tagSize t ≤ cap := by
  unfold copyTagField
  refine .ite (fun _ => trivial) fun _ => .ite (fun _ => trivial) fun _ => ?_
  outcome_step verifyChar_all 34 _ with r1 -
  outcome_step eatColon_all r1 with r2 -
  outcome_step verifyChar_all 91 r2 with r3 -
  outcome_step copyTagValues_all _ r3 (endPos + 5) cap 1 (by omega) with vs hvs
  simp only [Outcome.All, tagSize, strsSize, List.length_cons, List.length_nil]; omega

/-- `wts` = `write_tags_start`; `d` = how far behind it the next tag body goes (offsets are relative to `wts`); `w` = the number of
the first of these fields, whose offset slot is at `wts + 4 + 2 * w` -/
theorem copyTagFields_all (ss : List (Nat × Bytes)) (w wts endPos cap d : Nat) (hd : endPos = wts + d) :
    (copyTagFields ss w wts endPos cap).All fun r =>
      r.2.length = ss.length ∧ encOffList r.1 = encOffsets d r.2 ∧
        (endPos ≤ cap → endPos + tagsBodySize r.2 ≤ cap) ∧
        (wts + 4 + 2 * w ≤ cap → wts + 4 + 2 * (w + ss.length) ≤ cap) := by
  induction ss generalizing w endPos d with
  | nil => exact ⟨rfl, rfl, fun h => h, fun h => h⟩
  | cons s ss ih =>
    unfold copyTagFields
    refine .ite (fun _ => trivial) fun hcw => ?_
    outcome_step copyTagField_all s endPos cap with t hsz
    outcome_step ih (w + 1) (endPos + tagSize t) (d + tagSize t) (by rw [hd, Nat.add_assoc]) with ⟨offs', ts'⟩ ⟨i1, i2, i3, i4⟩
    refine ⟨by simp [i1], ?_, fun _ => ?_, fun _ => ?_⟩
    · simp only [encOffList, encOffsets, i2]
      rw [le16_mod, hd, Nat.add_sub_cancel_left]
    · rw [tagsBodySize, ← Nat.add_assoc]; exact i3 hsz
    · have := i4 (by omega)
      simp only [List.length_cons]; omega

theorem copyOpt32_all (start : Option Bytes) (endPos cap : Nat) (he : endPos ≤ cap) :
    (copyOpt32 start endPos cap).All fun vs =>
      (∀ v ∈ vs, v.length = 32) ∧ vs.length ≤ 65535 ∧ endPos + 32 * vs.length ≤ cap := by
  cases start with
  | none => exact ⟨nofun, Nat.zero_le _, he⟩
  | some s =>
    exact (copyHex32_all _ s endPos cap 0 he).mono fun vs ⟨i1, i2, i3⟩ =>
      ⟨i1, by have := i2 (Nat.zero_le _); omega, i3⟩

theorem copyOptKinds_all (start : Option Bytes) (endPos cap : Nat) (he : endPos ≤ cap) :
    (copyOptKinds start endPos cap).All fun ks =>
      (∀ k ∈ ks, k < 65536) ∧ ks.length ≤ 65535 ∧ endPos + 2 * ks.length ≤ cap := by
  cases start with
  | none => exact ⟨nofun, Nat.zero_le _, he⟩
  | some s =>
    exact (copyKinds_all _ s endPos cap 0).mono fun ks ⟨i1, i2, i3⟩ =>
      ⟨i1, by have := i2 (Nat.zero_le _); omega, i3 he⟩

theorem filterSize_tags (i a k n b : Nat) :
    filterSize i a k (4 + 2 * n + b) = 32 + 32 * i + 32 * a + 2 * k + 4 + 2 * n + b := by
  unfold filterSize; omega

/-- a buffer that holds a filter holds each of its parts: the positions at which `parse_json_filter` writes the authors, the kinds,
the tag section, its first body, and the end -/
theorem filterSize_le {i a k n b cap : Nat} (h : filterSize i a k (4 + 2 * n + b) ≤ cap) :
    32 + 32 * i ≤ cap ∧ 32 + 32 * i + 32 * a ≤ cap ∧ 32 + 32 * i + 32 * a + 2 * k ≤ cap ∧
      32 + 32 * i + 32 * a + 2 * k + 4 ≤ cap ∧ 32 + 32 * i + 32 * a + 2 * k + 4 + 2 * n ≤ cap ∧
      32 + 32 * i + 32 * a + 2 * k + 4 + 2 * n + b ≤ cap := by
  -- each position is the one after it less what is written between them
  rw [filterSize_tags] at h
  have p5 := Nat.le_of_add_right_le h
  have p4 := Nat.le_of_add_right_le p5
  have p3 := Nat.le_of_add_right_le p4
  have p2 := Nat.le_of_add_right_le p3
  exact ⟨Nat.le_of_add_right_le p2, p2, p3, p4, p5, h⟩

/-- `Filter::from_json` does not panic, and what it accepts is the encoding of a sized filter -/
theorem parseFilter_all (inp buf : Bytes) :
    (parseFilter inp buf).All fun r => ∃ f, FilterSized f ∧ r.2.2 = encodeFilter f ++ buf.drop r.2.1 ∧
      r.2.1 = (encodeFilter f).length ∧ r.2.1 ≤ buf.length ∧ r.1 ≤ inp.length := by
  unfold parseFilter
  refine .ite (fun _ => trivial) fun _ => .ite (fun _ => trivial) fun hcap32 => ?_
  outcome_step verifyChar_all 123 _ with r -
  outcome_step flLoop_all _ {} r ⟨nofun, nofun, nofun⟩ with ⟨st, rest⟩ hinv
  outcome_step copyOpt32_all st.startIds 32 buf.length (Nat.le_of_not_lt hcap32) with ids ⟨a1, a2, a3⟩
  outcome_step copyOpt32_all st.startAuthors _ buf.length a3 with authors ⟨b1, b2, b3⟩
  outcome_step copyOptKinds_all st.startKinds _ buf.length b3 with kinds ⟨c1, c2, c3⟩
  refine .ite (fun _ => trivial) fun hw4 => ?_
  outcome_step copyTagFields_all st.tagStarts 0 _ _ buf.length (4 + 2 * st.tagStarts.length) (Nat.add_assoc _ _ _)
    with ⟨offs, tags⟩ ⟨d1, d2, d3, d4⟩
  refine .ite (fun _ => trivial) fun ht16 => .ite (fun _ => trivial) fun ht32 => ?_
  -- the tag section: the first body lies `4 + 2n` behind its start, so the offsets are those of `encodeTags`
  have htb := encodeTags_of_parts tags st.tagStarts.length offs d1 d2
  have htsz : tagsSize tags = 4 + 2 * st.tagStarts.length + tagsBodySize tags := by
    rw [← d1]; rfl
  -- the offsets fit (`d4`), hence the bodies behind them (`d3`)
  have hend := d4 (Nat.le_of_not_lt hw4)
  rw [Nat.zero_add] at hend
  have hfit : filterSize ids.length authors.length kinds.length (tagsSize tags) ≤ buf.length := by
    rw [htsz, filterSize_tags]; exact d3 hend
  have hopt : ∀ (o : Option Nat) (d b : Nat), d < b → (∀ v, o = some v → v < b) → o.getD d < b := by
    rintro (_ | v) d b hd h
    · exact hd
    · exact h v rfl
  have hs : FilterSized ⟨ids, authors, kinds, tags, st.since.getD 0, st.until.getD U64MAX, st.limit.getD U32MAX⟩ :=
    ⟨a1, b1, c1, a2, b2, c2, by rw [htsz]; exact Nat.le_of_not_lt ht16, hopt _ _ _ (by decide) hinv.since,
      hopt _ _ _ (by simp [U64MAX]) hinv.until, hopt _ _ _ (by simp [U32MAX]) hinv.limit⟩
  refine ⟨_, hs, ?_, ?_, ?_, Nat.sub_le _ _⟩ <;> dsimp only <;> rw [htb]
  · rfl
  · rfl
  · have hl := encodeFilter_length _ hs
    unfold encodeFilter at hl
    dsimp only at hl
    rw [hl]; exact hfit

theorem parseFilter_wf (inp buf : Bytes) (c n : Nat) (out : Bytes)
    (h : parseFilter inp buf = .ok (c, n, out)) :
    ∃ f, FilterSized f ∧ out = encodeFilter f ++ buf.drop n ∧ n = (encodeFilter f).length ∧
      n ≤ buf.length ∧ c ≤ inp.length :=
  (parseFilter_all inp buf).of_ok h

end Pocket
