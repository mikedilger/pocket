import Pocket.Lemmas.StoreDel
import Pocket.Lemmas.Scan
import Pocket.Lemmas.Match
import Pocket.Spec.IndexKeys
/- soundness of `find_events` (C05, C17).  Every loop only examines events of the index (`collect`) and raises `since` (`Steps`),
which keeps `Good`; five of the seven plans are a list of index probes (`findState_plan`). -/
namespace Pocket

/-- the state of a query is sound: only qualifying indexed events, no id twice, `redacted` only after a redacted match.  Holds at
every point of every plan (`Steps.good`) -/
structure Good (live : List SEv) (f : FilterRec) (scr : EventRec → Screen) (st : FindState) : Prop where
  sound : ∀ x ∈ st.out, x ∈ live ∧ eventMatches f x.e = true ∧ scr x.e = .match
  nodup : st.out.Pairwise (fun a b => a.e.id ≠ b.e.id)
  red : st.redacted = true → ∃ x ∈ live, eventMatches f x.e = true ∧ scr x.e = .redacted

theorem Good_init (live : List SEv) (f : FilterRec) (scr : EventRec → Screen) (since : Nat) :
    Good live f scr { since := since } :=
  ⟨nofun, .nil, nofun⟩

theorem accept_eq (f : FilterRec) (scr : EventRec → Screen) (x : SEv) (st : FindState) :
    accept f scr x st = (decide (eventMatches f x.e = true ∧ scr x.e = .match),
      { st with redacted := st.redacted || (eventMatches f x.e && scr x.e == .redacted) }) := by
  have hbeq : ∀ a b : Screen, (a == b) = decide (a = b) := fun _ _ => rfl
  unfold accept
  cases eventMatches f x.e <;> cases scr x.e <;> simp [hbeq]

theorem insertOut_mem (out : List SEv) (x y : SEv) (h : y ∈ insertOut out x) : y ∈ out ∨ y = x := by
  unfold insertOut at h
  split at h
  · exact Or.inl h
  · rcases List.mem_append.mp h with h | h
    · exact Or.inl h
    · exact Or.inr (by simpa using h)

theorem insertOut_nodup (out : List SEv) (x : SEv) (h : out.Pairwise (fun a b => a.e.id ≠ b.e.id)) :
    (insertOut out x).Pairwise (fun a b => a.e.id ≠ b.e.id) := by
  unfold insertOut
  split
  · exact h
  · rename_i hn
    rw [List.pairwise_append]
    refine ⟨h, by simp, ?_⟩
    intro a ha b hb
    simp only [List.mem_singleton] at hb; subst hb
    intro hab
    apply hn
    exact List.any_eq_true.mpr ⟨a, ha, by simp [hab]⟩

theorem insertOut_self (live out : List SEv) (x : SEv) (hids : (live.map (·.e.id)).Nodup)
    (hx : x ∈ live) (hout : ∀ y ∈ out, y ∈ live) : x ∈ insertOut out x := by
  unfold insertOut
  split
  · rename_i h
    obtain ⟨y, hy, hyid⟩ := List.any_eq_true.mp h
    have : y = x := nodup_ids_inj _ hids y (hout y hy) x hx (by simpa using hyid)
    rw [← this]; exact hy
  · simp

theorem insertOut_mono (out : List SEv) (x y : SEv) (h : y ∈ out) : y ∈ insertOut out x := by
  unfold insertOut; split
  · exact h
  · exact List.mem_append_left _ h

/-- one event examined: `accept` with its three fields written out -/
def collect (f : FilterRec) (scr : EventRec → Screen) (x : SEv) (st : FindState) : FindState :=
  { out := if eventMatches f x.e = true ∧ scr x.e = .match then insertOut st.out x else st.out
    since := st.since
    redacted := st.redacted || (eventMatches f x.e && scr x.e == .redacted) }

theorem collect_since (f : FilterRec) (scr : EventRec → Screen) (x : SEv) (st : FindState) :
    (collect f scr x st).since = st.since := by rw [collect]

theorem subset_collect {f : FilterRec} {scr : EventRec → Screen} {x : SEv} {st : FindState} :
    st.out ⊆ (collect f scr x st).out := by
  intro y h
  unfold collect; dsimp only; split
  · exact insertOut_mono _ _ _ h
  · exact h

theorem mem_collect {f : FilterRec} {scr : EventRec → Screen} {x y : SEv} {st : FindState}
    (h : y ∈ (collect f scr x st).out) : y ∈ st.out ∨ y = x := by
  unfold collect at h; dsimp only at h; split at h
  · exact insertOut_mem _ _ _ h
  · exact Or.inl h

theorem Good_collect {live : List SEv} {f : FilterRec} {scr : EventRec → Screen} {x : SEv} {st : FindState}
    (hx : x ∈ live) (hg : Good live f scr st) : Good live f scr (collect f scr x st) := by
  refine ⟨fun y hy => ?_, ?_, fun hr => ?_⟩
  · unfold collect at hy; dsimp only at hy; split at hy
    · rename_i hq
      rcases insertOut_mem _ _ _ hy with hy | rfl
      · exact hg.sound y hy
      · exact ⟨hx, hq⟩
    · exact hg.sound y hy
  · unfold collect; dsimp only; split
    · exact insertOut_nodup _ _ hg.nodup
    · exact hg.nodup
  · rcases (Bool.or_eq_true _ _).mp hr with h | h
    · exact hg.red h
    · exact ⟨x, hx, by simpa using h⟩

theorem collect_self {live : List SEv} {f : FilterRec} {scr : EventRec → Screen} {x : SEv} {st : FindState}
    (hids : (live.map (·.e.id)).Nodup) (hx : x ∈ live) (hg : Good live f scr st)
    (hm : eventMatches f x.e = true) (hs : scr x.e = .match) : x ∈ (collect f scr x st).out := by
  unfold collect; dsimp only
  rw [if_pos ⟨hm, hs⟩]
  exact insertOut_self live _ x hids hx fun y hy => (hg.sound y hy).1

theorem consumeScrape_cons (f : FilterRec) (scr : EventRec → Screen) (x : SEv) (rest : List SEv) (st : FindState) :
    consumeScrape f scr (x :: rest) st =
      if st.out.length ≥ f.limit then st else consumeScrape f scr rest (collect f scr x st) := by
  rw [consumeScrape, accept_eq]
  by_cases h : eventMatches f x.e = true ∧ scr x.e = .match
  · simp only [collect, decide_eq_true_eq, if_pos h]
  · simp only [collect, decide_eq_true_eq, if_neg h]

theorem planIds_cons (live : List SEv) (f : FilterRec) (scr : EventRec → Screen) (id : Bytes) (ids : List Bytes) (st : FindState) :
    planIds live f scr (id :: ids) st =
      match findById live id with
      | some x => planIds live f scr ids (collect f scr x st)
      | none => planIds live f scr ids st := by
  rw [planIds]
  cases findById live id with
  | none => rfl
  | some x =>
    dsimp only
    rw [accept_eq]
    by_cases h : eventMatches f x.e = true ∧ scr x.e = .match
    · simp only [collect, decide_eq_true_eq, if_pos h]
    · simp only [collect, decide_eq_true_eq, if_neg h]

theorem consumeRange_cons (f : FilterRec) (scr : EventRec → Screen) (stop : Bool) (x : SEv) (rest : List SEv)
    (count : Nat) (st : FindState) :
    consumeRange f scr stop (x :: rest) count st =
      if x.e.createdAt < st.since then st
      else if eventMatches f x.e = true ∧ scr x.e = .match then
        if count + 1 ≥ f.limit then
          { collect f scr x st with since := if x.e.createdAt > st.since then x.e.createdAt else st.since }
        else if stop = true then collect f scr x st
        else consumeRange f scr stop rest (count + 1) (collect f scr x st)
      else consumeRange f scr stop rest count (collect f scr x st) := by
  rw [consumeRange, accept_eq]
  by_cases h : eventMatches f x.e = true ∧ scr x.e = .match
  · simp only [collect, decide_eq_true_eq, if_pos h]
  · simp only [collect, decide_eq_true_eq, if_neg h]

/-- `st'` comes from `st` by examining events of `live` and raising `since`: all a plan ever does -/
inductive Steps (live : List SEv) (f : FilterRec) (scr : EventRec → Screen) : FindState → FindState → Prop
  | refl (st : FindState) : Steps live f scr st st
  | collect {st st' : FindState} {x : SEv} (hx : x ∈ live) :
      Steps live f scr (collect f scr x st) st' → Steps live f scr st st'
  | since {st st' : FindState} {t : Nat} (ht : st.since ≤ t) :
      Steps live f scr { st with since := t } st' → Steps live f scr st st'

theorem Steps.good {live : List SEv} {f : FilterRec} {scr : EventRec → Screen} {st st' : FindState}
    (h : Steps live f scr st st') (hg : Good live f scr st) : Good live f scr st' := by
  induction h with
  | refl => exact hg
  | collect hx _ ih => exact ih (Good_collect hx hg)
  | since _ _ ih => exact ih ⟨hg.sound, hg.nodup, hg.red⟩

theorem Steps.subset {live : List SEv} {f : FilterRec} {scr : EventRec → Screen} {st st' : FindState}
    (h : Steps live f scr st st') : st.out ⊆ st'.out := by
  induction h with
  | refl => exact List.Subset.refl _
  | collect _ _ ih => exact subset_collect.trans ih
  | since _ _ ih => exact ih

theorem Steps.since_le {live : List SEv} {f : FilterRec} {scr : EventRec → Screen} {st st' : FindState}
    (h : Steps live f scr st st') : st.since ≤ st'.since := by
  induction h with
  | refl => exact Nat.le_refl _
  | collect _ _ ih => exact ih
  | since ht _ ih => exact Nat.le_trans ht ih

theorem Steps.trans {live : List SEv} {f : FilterRec} {scr : EventRec → Screen} {st st' st'' : FindState}
    (h : Steps live f scr st st') (h' : Steps live f scr st' st'') : Steps live f scr st st'' := by
  induction h with
  | refl => exact h'
  | collect hx _ ih => exact .collect hx (ih h')
  | since ht _ ih => exact .since ht (ih h')

theorem consumeRange_steps (live : List SEv) (f : FilterRec) (scr : EventRec → Screen) (stop : Bool)
    (l : List SEv) (hl : ∀ x ∈ l, x ∈ live) (count : Nat) (st : FindState) :
    Steps live f scr st (consumeRange f scr stop l count st) := by
  induction l generalizing count st with
  | nil => exact .refl _
  | cons x rest ih =>
    have hx := hl x List.mem_cons_self
    have hi := fun c => ih (fun y hy => hl y (List.mem_cons_of_mem _ hy)) c (collect f scr x st)
    rw [consumeRange_cons]
    by_cases c0 : x.e.createdAt < st.since
    · rw [if_pos c0]; exact .refl _
    rw [if_neg c0]
    by_cases c1 : eventMatches f x.e = true ∧ scr x.e = .match
    · rw [if_pos c1]
      by_cases c2 : count + 1 ≥ f.limit
      · rw [if_pos c2]
        exact .collect hx (.since (by rw [collect_since, ite_gt_eq_max]; exact Nat.le_max_left _ _) (.refl _))
      rw [if_neg c2]
      by_cases c3 : stop = true
      · rw [if_pos c3]; exact .collect hx (.refl _)
      · rw [if_neg c3]; exact .collect hx (hi _)
    · rw [if_neg c1]; exact .collect hx (hi _)

theorem consumeScrape_steps (live : List SEv) (f : FilterRec) (scr : EventRec → Screen)
    (l : List SEv) (hl : ∀ x ∈ l, x ∈ live) (st : FindState) :
    Steps live f scr st (consumeScrape f scr l st) := by
  induction l generalizing st with
  | nil => exact .refl _
  | cons x rest ih =>
    rw [consumeScrape_cons]
    split
    · exact .refl _
    · exact .collect (hl x List.mem_cons_self) (ih (fun y hy => hl y (List.mem_cons_of_mem _ hy)) _)

theorem planIds_steps (live : List SEv) (f : FilterRec) (scr : EventRec → Screen) (ids : List Bytes) (st : FindState) :
    Steps live f scr st (planIds live f scr ids st) := by
  induction ids generalizing st with
  | nil => exact .refl _
  | cons id rest ih =>
    rw [planIds_cons]
    split
    · rename_i x hf
      exact .collect (findById_some_mem _ _ _ hf).1 (ih _)
    · exact ih _

theorem mem_pairs {α β : Type} (as : List α) (bs : List β) (a : α) (b : β) :
    (a, b) ∈ pairs as bs ↔ a ∈ as ∧ b ∈ bs := by
  simp [pairs]

theorem match_has_probe (f : FilterRec) (e : EventRec) (hsl : SingleLetter f) (hne : f.tags ≠ [])
    (h : C06.matchesSpec f e) : ∃ p ∈ tagProbes f.tags, hasTagKey e p.1 p.2 = true := by
  obtain ⟨c, rest, hc⟩ := List.exists_cons_of_ne_nil hne
  have hmem : c ∈ f.tags := hc ▸ List.mem_cons_self
  obtain ⟨l, vs, rfl⟩ := hsl c hmem
  obtain ⟨t, ht, v, hv, h0, h1⟩ := h.2.2.2.2.2 ([l] :: vs) hmem
  refine ⟨(l, v), ?_, List.any_eq_true.mpr ⟨t, ht, ?_⟩⟩
  · rw [hc]
    simp only [tagProbes, List.flatMap_cons, List.mem_append, List.mem_map]
    exact Or.inl ⟨v, hv, rfl⟩
  · match t, h0, h1 with
    | n :: v' :: _, h0, h1 =>
      simp only [List.getElem?_cons_zero, List.head?_cons, Option.some.injEq, List.getElem?_cons_succ] at h0 h1
      simp [h0, h1]

/-- a probe is (stop on first?, selector); its range is the scan by the selector, opened at the current `since` -/
def probeRanges (live : List SEv) (f : FilterRec) (ps : List (Bool × (EventRec → Bool))) :
    List (Bool × (Nat → List SEv)) :=
  ps.map fun sp => (sp.1, fun n => scan live sp.2 n f.until)

/-- every matching event is filed under one of the probes; a stop-on-first probe selects one replaceable address -/
def Covers (f : FilterRec) (ps : List (Bool × (EventRec → Bool))) : Prop :=
  ∀ e, C06.matchesSpec f e → ∃ sp ∈ ps, sp.2 e = true ∧
    (sp.1 = true → isReplaceable e.kind = true ∧ ∀ e', sp.2 e' = true → e'.pubkey = e.pubkey ∧ e'.kind = e.kind)

theorem planRanges_steps (live : List SEv) (f : FilterRec) (scr : EventRec → Screen)
    (ps : List (Bool × (EventRec → Bool))) (st : FindState) :
    Steps live f scr st (planRanges f scr (probeRanges live f ps) st) := by
  induction ps generalizing st with
  | nil => exact .refl _
  | cons sp rest ih => exact (consumeRange_steps live f scr sp.1 _ scan_subset 0 st).trans (ih _)

/-- the author plan's loop tests against the filter's own `since`; on a range opened at the current
`since` (never below the filter's) that is the same loop -/
theorem consumeRangeAc_eq (f : FilterRec) (scr : EventRec → Screen) (l : List SEv) (count : Nat)
    (st : FindState) (h1 : ∀ y ∈ l, st.since ≤ y.e.createdAt) (h2 : ∀ y ∈ l, f.since ≤ y.e.createdAt) :
    consumeRangeAc f scr l count st = consumeRange f scr false l count st := by
  induction l generalizing count st with
  | nil => rfl
  | cons a rest ih =>
    have hn1 : ¬ a.e.createdAt < st.since := Nat.not_lt.mpr (h1 a List.mem_cons_self)
    have hn2 : ¬ a.e.createdAt < f.since := Nat.not_lt.mpr (h2 a List.mem_cons_self)
    -- the two loops are written alike, and neither step touches `since`
    have hi := fun c o r => ih c { out := o, since := st.since, redacted := r }
      (fun y hy => h1 y (List.mem_cons_of_mem _ hy)) (fun y hy => h2 y (List.mem_cons_of_mem _ hy))
    rw [consumeRangeAc, consumeRange, accept_eq, if_neg hn1, if_neg hn2]
    simp only [hi, Bool.false_eq_true, if_false]

theorem planAc_eq (live : List SEv) (f : FilterRec) (scr : EventRec → Screen) (as : List Bytes)
    (st : FindState) (hs : f.since ≤ st.since) :
    planAc live f scr as st =
      planRanges f scr (probeRanges live f (as.map fun a => (false, fun e => e.pubkey == a))) st := by
  induction as generalizing st with
  | nil => rfl
  | cons a rest ih =>
    have hsc : ∀ y ∈ acScan live a st.since f.until, st.since ≤ y.e.createdAt :=
      fun y hy => ((scan_mem_iff _ _ _ _ _).mp hy).2.2.1
    have heq := consumeRangeAc_eq f scr (acScan live a st.since f.until) 0 st hsc
      (fun y hy => Nat.le_trans hs (hsc y hy))
    simp only [planAc, probeRanges, List.map_cons, planRanges]
    rw [heq, ih _ (Nat.le_trans hs (consumeRange_steps live f scr false (acScan live a st.since f.until) scan_subset 0 st).since_le)]
    rfl

/-- what `findState` runs: the id lookup, a list of probes (which cover every match of a NIP-01 filter), or the scrape -/
theorem findState_plan (live : List SEv) (f : FilterRec) (allow : Bool) (l secs now : Nat)
    (scr : EventRec → Screen) (st : FindState) (h : findState live f allow l secs now scr = some st) :
    (f.ids ≠ [] ∧ st = planIds live f scr f.ids { since := f.since }) ∨
    (∃ ps, st = planRanges f scr (probeRanges live f ps) { since := f.since } ∧ (SingleLetter f → Covers f ps)) ∨
    st = consumeScrape f scr (ciScan live f.since f.until) { since := f.since } := by
  have au : ∀ e, C06.matchesSpec f e → f.authors ≠ [] → e.pubkey ∈ f.authors := fun e m hn => m.2.1.resolve_left hn
  have ki : ∀ e, C06.matchesSpec f e → f.kinds ≠ [] → e.kind ∈ f.kinds := fun e m hn => m.2.2.1.resolve_left hn
  -- the chain of `findState` as alternatives, then guard by guard in its order
  unfold findState at h
  simp only [ite_some_eq_some, Bool.and_eq_true, Bool.not_eq_true', List.isEmpty_eq_false_iff,
    Bool.not_eq_true, not_and, Classical.not_not] at h
  rcases h with ⟨hi, rfl⟩ | ⟨_, h⟩
  · exact Or.inl ⟨hi, rfl⟩
  rcases h with ⟨⟨ha, hk⟩, rfl⟩ | ⟨_, h⟩
  · refine Or.inr (Or.inl ⟨(pairs f.authors f.kinds).map fun ak => (isReplaceable ak.2, fun e => e.pubkey == ak.1 && e.kind == ak.2),
      by rw [akcRanges, probeRanges, List.map_map]; rfl, fun _ e m => ?_⟩)
    refine ⟨_, List.mem_map.mpr ⟨(e.pubkey, e.kind), (mem_pairs _ _ _ _).mpr ⟨au e m ha, ki e m hk⟩, rfl⟩, by simp, fun hh => ⟨hh, fun e' he' => ?_⟩⟩
    simpa using he'
  rcases h with ⟨⟨ha, ht⟩, rfl⟩ | ⟨_, h⟩
  · refine Or.inr (Or.inl ⟨(pairs f.authors (tagProbes f.tags)).map fun ap => (false, fun e => e.pubkey == ap.1 && hasTagKey e ap.2.1 ap.2.2),
      by rw [atcRanges, probeRanges, List.map_map]; rfl, fun hsl e m => ?_⟩)
    obtain ⟨p, hp, hkey⟩ := match_has_probe f e hsl ht m
    exact ⟨_, List.mem_map.mpr ⟨(e.pubkey, p), (mem_pairs _ _ _ _).mpr ⟨au e m ha, hp⟩, rfl⟩, by simp [hkey], fun hh => by cases hh⟩
  rcases h with ⟨⟨hk, ht⟩, rfl⟩ | ⟨_, h⟩
  · refine Or.inr (Or.inl ⟨(pairs f.kinds (tagProbes f.tags)).map fun kp => (false, fun e => e.kind == kp.1 && hasTagKey e kp.2.1 kp.2.2),
      by rw [ktcRanges, probeRanges, List.map_map]; rfl, fun hsl e m => ?_⟩)
    obtain ⟨p, hp, hkey⟩ := match_has_probe f e hsl ht m
    exact ⟨_, List.mem_map.mpr ⟨(e.kind, p), (mem_pairs _ _ _ _).mpr ⟨ki e m hk, hp⟩, rfl⟩, by simp [hkey], fun hh => by cases hh⟩
  rcases h with ⟨ht, rfl⟩ | ⟨_, h⟩
  · refine Or.inr (Or.inl ⟨(tagProbes f.tags).map fun p => (false, fun e => hasTagKey e p.1 p.2),
      by rw [tcRanges, probeRanges, List.map_map]; rfl, fun hsl e m => ?_⟩)
    obtain ⟨p, hp, hkey⟩ := match_has_probe f e hsl ht m
    exact ⟨_, List.mem_map.mpr ⟨p, hp, rfl⟩, hkey, fun hh => by cases hh⟩
  rcases h with ⟨ha, rfl⟩ | ⟨_, h⟩
  · refine Or.inr (Or.inl ⟨f.authors.map fun a => (false, fun e => e.pubkey == a),
      planAc_eq live f scr f.authors _ (Nat.le_refl _), fun _ e m => ?_⟩)
    exact ⟨_, List.mem_map.mpr ⟨e.pubkey, au e m ha, rfl⟩, by simp, fun hh => by cases hh⟩
  rcases h with ⟨_, rfl⟩ | ⟨_, h⟩
  · exact Or.inr (Or.inr rfl)
  · cases h

theorem findState_eq_none (live : List SEv) (f : FilterRec) (allow : Bool) (l secs now : Nat)
    (scr : EventRec → Screen) :
    findState live f allow l secs now scr = none ↔
      (f.ids = [] ∧ f.authors = [] ∧ f.tags = [] ∧ scrapeAllowed f allow l secs now = false) := by
  unfold findState
  -- every guard of the chain fails; with no authors and no tags the three guards that mention kinds fail of themselves
  simp only [ite_some_eq_none, and_true, Bool.and_eq_true, Bool.not_eq_true', List.isEmpty_eq_false_iff,
    Bool.not_eq_true, not_and, Classical.not_not]
  exact ⟨fun ⟨hi, _, _, _, ht, ha, hs⟩ => ⟨hi, ha, ht, hs⟩,
    fun ⟨hi, ha, ht, hs⟩ => ⟨hi, fun h => absurd ha h, fun h => absurd ha h, fun _ => ht, ht, ha, hs⟩⟩

theorem findState_steps (live : List SEv) (f : FilterRec) (allow : Bool) (l secs now : Nat)
    (scr : EventRec → Screen) (st : FindState) (h : findState live f allow l secs now scr = some st) :
    Steps live f scr { since := f.since } st := by
  rcases findState_plan live f allow l secs now scr st h with ⟨_, rfl⟩ | ⟨ps, rfl, _⟩ | rfl
  · exact planIds_steps _ _ _ _ _
  · exact planRanges_steps _ _ _ _ _
  · exact consumeScrape_steps _ _ _ _ scan_subset _

theorem Good_findState (live : List SEv) (f : FilterRec) (allow : Bool) (l secs now : Nat)
    (scr : EventRec → Screen) (st : FindState) (h : findState live f allow l secs now scr = some st) :
    Good live f scr st :=
  (findState_steps live f allow l secs now scr st h).good (Good_init live f scr f.since)

theorem findEvents_ok (live : List SEv) (f : FilterRec) (allow : Bool) (l secs now : Nat)
    (scr : EventRec → Screen) (out : List SEv) (red : Bool)
    (h : findEvents live f allow l secs now scr = .ok out red) :
    ∃ st, findState live f allow l secs now scr = some st ∧ out = (sortOut st.out).take f.limit ∧ red = st.redacted := by
  unfold findEvents at h
  split at h
  · rename_i st hst
    simp only [FindReply.ok.injEq] at h
    exact ⟨st, hst, h.1.symm, h.2.symm⟩
  · cases h

theorem findEvents_eq_scraper (live : List SEv) (f : FilterRec) (allow : Bool) (l secs now : Nat)
    (scr : EventRec → Screen) :
    findEvents live f allow l secs now scr = .scraper ↔ findState live f allow l secs now scr = none := by
  unfold findEvents
  split <;> simp [*]

theorem findEvents_sound (live : List SEv) (f : FilterRec) (allow : Bool) (l secs now : Nat)
    (scr : EventRec → Screen) (out : List SEv) (red : Bool)
    (h : findEvents live f allow l secs now scr = .ok out red) :
    (∀ x ∈ out, x ∈ live ∧ eventMatches f x.e = true ∧ scr x.e = .match) ∧
    out.Pairwise (fun a b => a.e.id ≠ b.e.id) ∧
    out.Pairwise (fun a b => a.e.createdAt ≥ b.e.createdAt) ∧
    out.length ≤ f.limit := by
  obtain ⟨st, hst, rfl, _⟩ := findEvents_ok live f allow l secs now scr out red h
  have hg := Good_findState live f allow l secs now scr st hst
  refine ⟨fun x hx => hg.sound x ((sortOut_perm _).mem_iff.mp (List.mem_of_mem_take hx)),
    (((sortOut_perm _).pairwise_iff Ne.symm).mpr hg.nodup).sublist (List.take_sublist _ _),
    (sortOut_sorted _).sublist (List.take_sublist _ _), ?_⟩
  rw [List.length_take]; exact Nat.min_le_left _ _

end Pocket
