import Pocket.Model.Filter
import Pocket.Lemmas.ListAux
import Pocket.Spec.Sized
/- The binary layout of tags, events and filters: the decoders read back what the encoders write.  The device is the read cursor
`At b off s`: a field is read and the cursor moves past it (`rd16_next` … `slice_next`) or it
is passed over (`At.skip`); `At.length` gives the length of `b` wherever the cursor stands.  Each decode ∘ encode proof is one walk
from offset 0 over the encoder's output. -/
namespace Pocket

@[simp] theorem le16_length (n : Nat) : (le16 n).length = 2 := rfl
@[simp] theorem le32_length (n : Nat) : (le32 n).length = 4 := rfl
@[simp] theorem le64_length (n : Nat) : (le64 n).length = 8 := by simp [le64]

theorem leVal_append (a b : Bytes) : leVal (a ++ b) = leVal a + 256 ^ a.length * leVal b := by
  induction a with
  | nil => simp [leVal]
  | cons x a ih =>
    simp only [List.cons_append, leVal, ih, List.length_cons, Nat.pow_succ]
    rw [Nat.mul_add, Nat.add_assoc, Nat.mul_comm (256 ^ a.length) 256, Nat.mul_assoc]

theorem leVal_le16 (n : Nat) : leVal (le16 n) = n % 65536 := by
  show n % 256 + 256 * (n / 256 % 256 + 256 * 0) = n % (256 * 256)
  rw [Nat.mod_mul]; rfl

theorem le16_mod (p : Nat) : le16 (p % 65536) = le16 p := by
  show [p % (256 * 256) % 256, p % (256 * 256) / 256 % 256] = [p % 256, p / 256 % 256]
  rw [Nat.mod_mul_right_mod, Nat.mod_mul_right_div_self, Nat.mod_mod]

theorem le32_eq (n : Nat) : le32 n = le16 n ++ le16 (n / 65536) := by
  simp [le32, le16, Nat.div_div_eq_div_mul]

/- a wider field is two narrower ones (`Nat.mod_mul`); `simp; omega` on the eight bytes is slow to check -/
theorem leVal_le32 (n : Nat) : leVal (le32 n) = n % 4294967296 := by
  rw [le32_eq, leVal_append, leVal_le16, leVal_le16, le16_length]
  exact (Nat.mod_mul (a := 65536) (b := 65536)).symm
theorem leVal_le64 (n : Nat) : leVal (le64 n) = n % 18446744073709551616 := by
  rw [le64, leVal_append, leVal_le32, leVal_le32, le32_length]
  exact (Nat.mod_mul (a := 4294967296) (b := 4294967296)).symm

theorem le32_bytes (n : Nat) : ∀ b ∈ le32 n, b < 256 := by
  intro b hb
  simp only [le32, List.mem_cons, List.not_mem_nil, or_false] at hb
  rcases hb with rfl | rfl | rfl | rfl <;> exact Nat.mod_lt _ (by omega)

/-- the read cursor: `off` bytes of `b` behind, `s` ahead -/
structure At (b : Bytes) (off : Nat) (s : Bytes) : Prop where
  le : off ≤ b.length
  drop : b.drop off = s

theorem At.length {b : Bytes} {off : Nat} {s : Bytes} (h : At b off s) : b.length = off + s.length := by
  rw [← h.drop, List.length_drop]; have := h.le; omega

theorem At.skip {b : Bytes} {off : Nat} {x r : Bytes} (h : At b off (x ++ r)) (off' : Nat) (hk : off + x.length = off') :
    At b off' r := by
  subst hk
  exact ⟨by have := h.length; rw [List.length_append] at this; omega, by rw [← List.drop_drop, h.drop, List.drop_left' rfl]⟩

theorem rdN_at {w : Nat} {b : Bytes} {off : Nat} {enc r : Bytes} (h : At b off (enc ++ r)) (hw : enc.length = w) :
    rdN w b off = .ok (leVal enc) := by
  have := h.length
  rw [List.length_append, hw] at this
  rw [rdN, if_pos (by omega), h.drop, List.take_left' hw]

theorem rd16_next {b : Bytes} (off : Nat) {n : Nat} {r : Bytes} (h : At b off (le16 n ++ r)) (hn : n < 65536) :
    rd16 b off = .ok n ∧ At b (off + 2) r :=
  ⟨by rw [rd16, rdN_at h (le16_length n), leVal_le16, Nat.mod_eq_of_lt hn], h.skip _ rfl⟩
theorem rd32_next {b : Bytes} (off : Nat) {n : Nat} {r : Bytes} (h : At b off (le32 n ++ r)) (hn : n < 4294967296) :
    rd32 b off = .ok n ∧ At b (off + 4) r :=
  ⟨by rw [rd32, rdN_at h (le32_length n), leVal_le32, Nat.mod_eq_of_lt hn], h.skip _ rfl⟩
theorem rd64_next {b : Bytes} (off : Nat) {n : Nat} {r : Bytes} (h : At b off (le64 n ++ r)) (hn : n < 18446744073709551616) :
    rd64 b off = .ok n ∧ At b (off + 8) r :=
  ⟨by rw [rd64, rdN_at h (le64_length n), leVal_le64, Nat.mod_eq_of_lt hn], h.skip _ (by rw [le64_length])⟩
theorem slice_next {b : Bytes} (off : Nat) {s r : Bytes} (h : At b off (s ++ r)) {k : Nat} (hk : s.length = k) :
    slice b off k = .ok s ∧ At b (off + k) r := by
  have := h.length
  rw [List.length_append, hk] at this
  exact ⟨by rw [slice, if_pos (by omega), h.drop, List.take_left' hk], h.skip _ (by rw [hk])⟩

theorem encStrs_length (ss : List Bytes) : (encStrs ss).length = strsSize ss := by
  induction ss with
  | nil => rfl
  | cons s ss ih => simp [encStrs, encStr, strsSize, ih, Nat.add_assoc]
theorem encTag_length (t : List Bytes) : (encTag t).length = tagSize t := by
  simp [encTag, tagSize, encStrs_length]
theorem encTagsBody_length (ts : TagsRec) : (encTagsBody ts).length = tagsBodySize ts := by
  induction ts with
  | nil => rfl
  | cons t ts ih => simp [encTagsBody, tagsBodySize, ih, encTag_length]
theorem encOffsets_length (p : Nat) (ts : TagsRec) : (encOffsets p ts).length = 2 * ts.length := by
  induction ts generalizing p with
  | nil => rfl
  | cons t ts ih => simp [encOffsets, ih]; omega
theorem encodeTags_length (ts : TagsRec) : (encodeTags ts).length = tagsSize ts := by
  simp only [encodeTags, tagsSize, List.length_append, le16_length, encOffsets_length, encTagsBody_length]

theorem tagsBodySize_append (a b : TagsRec) : tagsBodySize (a ++ b) = tagsBodySize a + tagsBodySize b := by
  induction a with
  | nil => simp [tagsBodySize]
  | cons t a ih => simp only [List.cons_append, tagsBodySize, ih]; omega
theorem encTagsBody_append (a b : TagsRec) : encTagsBody (a ++ b) = encTagsBody a ++ encTagsBody b := by
  induction a with
  | nil => rfl
  | cons t a ih => simp only [List.cons_append, encTagsBody, ih, List.append_assoc]
/-- the slots of a later part of the table point behind the tags of the earlier part -/
theorem encOffsets_append (p : Nat) (a b : TagsRec) :
    encOffsets p (a ++ b) = encOffsets p a ++ encOffsets (p + tagsBodySize a) b := by
  induction a generalizing p with
  | nil => rfl
  | cons t a ih => simp only [List.cons_append, encOffsets, ih, tagsBodySize, List.append_assoc, Nat.add_assoc]

theorem length_le_strsSize (ss : List Bytes) : 2 * ss.length ≤ strsSize ss := by
  induction ss with
  | nil => simp [strsSize]
  | cons x ss ih => simp only [strsSize, List.length_cons]; omega

theorem readStrs_enc {b : Bytes} (off : Nat) {ss : List Bytes} {r : Bytes} (h : At b off (encStrs ss ++ r))
    (hfit : strsSize ss ≤ 65535) : readStrs b ss.length off = .ok ss := by
  induction ss generalizing off with
  | nil => rfl
  | cons s ss ih =>
    simp only [encStrs, encStr, List.append_assoc] at h
    simp only [strsSize] at hfit
    obtain ⟨r1, h1⟩ := rd16_next off h (by omega)
    obtain ⟨r2, h2⟩ := slice_next (off + 2) h1 rfl
    simp only [List.length_cons, readStrs, r1, r2, ih _ h2 (by omega)]

theorem encodeTags_at (ts : TagsRec) (tail : Bytes) :
    At (encodeTags ts ++ tail) 0
      (le16 (tagsSize ts) ++ (le16 ts.length ++ (encOffsets (4 + 2 * ts.length) ts ++ (encTagsBody ts ++ tail)))) :=
  ⟨Nat.zero_le _, by simp only [List.drop_zero, encodeTags, List.append_assoc]⟩

/-- random access through the offset table: the slot of `t` holds the offset at which `t` starts, there stands the number of its
strings, and the strings follow.  `ts` is a variable with an equation so that `tagsSize ts`, `ts.length` stay atoms for `rw`, `omega` -/
theorem encodeTags_tag (ts pre : TagsRec) (t : List Bytes) (rest : TagsRec) (hts : ts = pre ++ t :: rest)
    (hfit : tagsSize ts ≤ 65535) (tail : Bytes) :
    rd16 (encodeTags ts ++ tail) (4 + pre.length * 2) = .ok (4 + 2 * ts.length + tagsBodySize pre) ∧
    rd16 (encodeTags ts ++ tail) (4 + 2 * ts.length + tagsBodySize pre) = .ok t.length ∧
    At (encodeTags ts ++ tail) (4 + 2 * ts.length + tagsBodySize pre + 2) (encStrs t ++ (encTagsBody rest ++ tail)) ∧
    strsSize t ≤ 65535 := by
  have hn : ts.length = pre.length + (rest.length + 1) := by rw [hts, List.length_append, List.length_cons]
  have hb : tagsBodySize ts = tagsBodySize pre + (2 + strsSize t + tagsBodySize rest) := by
    rw [hts, tagsBodySize_append, tagsBodySize, tagSize]
  have hl := length_le_strsSize t
  unfold tagsSize at hfit
  -- the section from its start: header, the slots of `pre`, the slot of `t`, the later slots, the tags of `pre`, then `t`
  have eo (p : Nat) : encOffsets p ts = encOffsets p pre ++ (le16 (p + tagsBodySize pre) ++
      encOffsets (p + tagsBodySize pre + tagSize t) rest) := by rw [hts, encOffsets_append, encOffsets]
  have eb : encTagsBody ts = encTagsBody pre ++ (encTag t ++ encTagsBody rest) := by rw [hts, encTagsBody_append, encTagsBody]
  have h0 := encodeTags_at ts tail
  simp only [eo, eb, encTag, List.append_assoc] at h0
  -- `t` lies inside the section, which fits
  obtain ⟨hq, htl, ht⟩ : 4 + 2 * ts.length + tagsBodySize pre < 65536 ∧ t.length < 65536 ∧ strsSize t ≤ 65535 := by omega
  obtain ⟨r1, h1⟩ := rd16_next (4 + pre.length * 2)
    (((h0.skip 2 rfl).skip 4 rfl).skip _ (by rw [encOffsets_length, Nat.mul_comm])) hq
  obtain ⟨r2, h2⟩ := rd16_next (4 + 2 * ts.length + tagsBodySize pre)
    ((h1.skip _ rfl).skip _ (by rw [encOffsets_length, encTagsBody_length, hn]; omega)) htl
  exact ⟨r1, r2, h2, ht⟩

/-- `pre` are the tags already yielded, `todo` those still to come -/
theorem readTagsFrom_enc (ts pre todo : TagsRec) (hts : ts = pre ++ todo) (hfit : tagsSize ts ≤ 65535) (fuel : Nat)
    (hf : todo.length ≤ fuel) (tail : Bytes) :
    readTagsFrom (encodeTags ts ++ tail) ts.length fuel pre.length = .ok todo := by
  induction todo generalizing pre fuel with
  | nil =>
    cases fuel with
    | zero => rfl
    | succ fuel => rw [readTagsFrom, if_pos (by simp [hts])]
  | cons t rest ih =>
    cases fuel with
    | zero => simp at hf
    | succ fuel =>
      obtain ⟨r1, r2, h2, ht⟩ := encodeTags_tag ts pre t rest hts hfit tail
      have r4 := ih (pre ++ [t]) (by rw [hts, List.append_assoc, List.singleton_append]) fuel (Nat.le_of_succ_le_succ hf)
      rw [List.length_append, List.length_singleton] at r4
      have hn : ¬ pre.length ≥ ts.length := by rw [hts, List.length_append, List.length_cons]; omega
      simp only [readTagsFrom, hn, if_false, r1, r2, readStrs_enc _ h2 ht, r4]

/-- `tags.iter()` on a written tag section yields the tags it was built from -/
theorem tagsDecode_encode (ts : TagsRec) (hfit : tagsSize ts ≤ 65535) : tagsDecode (encodeTags ts) = .ok ts := by
  obtain ⟨-, h2⟩ := rd16_next 0 (encodeTags_at ts []) (Nat.lt_succ_of_le hfit)
  have hc := (rd16_next 2 h2 (by unfold tagsSize at hfit; omega)).1
  have h := readTagsFrom_enc ts [] ts rfl hfit ts.length (Nat.le_refl _) []
  rw [List.append_nil] at hc h
  rw [tagsDecode, tagsCount, hc]
  exact h

theorem encodeTags_injective (a b : TagsRec) (ha : tagsSize a ≤ 65535) (hb : tagsSize b ≤ 65535)
    (h : encodeTags a = encodeTags b) : a = b :=
  Outcome.ok.inj ((tagsDecode_encode a ha).symm.trans (h ▸ tagsDecode_encode b hb))

theorem tagsFromParts_eq (ts : TagsRec) (buf : Bytes) :
    tagsFromParts ts buf =
      if tagsSize ts > 65535 ∨ buf.length < tagsSize ts then .err
      else .ok (encodeTags ts ++ buf.drop (tagsSize ts)) :=
  ite_ite_same _ _ _ _

theorem tagsDelineate_encode (ts : TagsRec) (hfit : tagsSize ts ≤ 65535) (tail : Bytes) :
    tagsDelineate (encodeTags ts ++ tail) = .ok (encodeTags ts) := by
  -- the section holds at least its header and lies inside the input
  have h2 : 2 ≤ tagsSize ts :=
    Nat.le_trans (by decide : 2 ≤ 4) (Nat.le_trans (Nat.le_add_right 4 (2 * ts.length)) (Nat.le_add_right _ (tagsBodySize ts)))
  have hle : tagsSize ts ≤ (encodeTags ts ++ tail).length := by
    rw [List.length_append, encodeTags_length]; exact Nat.le_add_right _ _
  rw [tagsDelineate, if_neg (Nat.not_lt.mpr (Nat.le_trans h2 hle)),
    (rd16_next 0 (encodeTags_at ts tail) (Nat.lt_succ_of_le hfit)).1]
  dsimp only
  rw [if_neg (Nat.not_lt.mpr hle), List.take_left' (encodeTags_length ts)]

theorem encodeEventWith_length (id pk sig : Bytes) (kind t : Nat) (tb c : Bytes)
    (h1 : id.length = 32) (h2 : pk.length = 32) (h3 : sig.length = 64) :
    (encodeEventWith id pk sig kind t tb c).length = eventSize tb.length c.length := by
  simp only [encodeEventWith, eventSize, List.length_append, List.length_cons, List.length_nil, le32_length, le16_length,
    le64_length, h1, h2, h3]

theorem encodeEvent_length (e : EventRec) (hs : EventSized e) :
    (encodeEvent e).length = eventSize (tagsSize e.tags) e.content.length := by
  rw [encodeEvent, encodeEventWith_length _ _ _ _ _ _ _ hs.id hs.pk hs.sig, encodeTags_length]

theorem encodeEvent_at (e : EventRec) (rest : Bytes) :
    At (encodeEvent e ++ rest) 0 (le32 (eventSize (encodeTags e.tags).length e.content.length) ++ (le16 e.kind ++ ([0, 0] ++
      (le64 e.createdAt ++ (e.id ++ (e.pubkey ++ (e.sig ++ (encodeTags e.tags ++ (le32 e.content.length ++ (e.content ++ rest)))))))))) :=
  ⟨Nat.zero_le _, by simp only [List.drop_zero, encodeEvent, encodeEventWith, List.append_assoc]⟩

/-- every accessor of a written `Event` returns the part it was built from -/
theorem eventDecode_encode (e : EventRec) (hs : EventSized e) : eventDecode (encodeEvent e) = .ok e := by
  have h0 := encodeEvent_at e []
  simp only [List.append_nil] at h0
  obtain ⟨h1, h2, h3, hk, ht, htg, hc⟩ := hs
  obtain ⟨-, h4⟩ := rd32_next 0 h0 (by rw [encodeTags_length]; exact Nat.lt_succ_of_le hc)
  unfold eventSize at hc
  obtain ⟨r4, h6⟩ := rd16_next 4 h4 hk
  obtain ⟨r8, h16⟩ := rd64_next 8 (h6.skip 8 rfl) ht
  obtain ⟨s16, h48⟩ := slice_next 16 h16 h1
  obtain ⟨s48, h80⟩ := slice_next 48 h48 h2
  obtain ⟨s80, h144⟩ := slice_next 80 h80 h3
  -- the tag section is cut out by `delineate` and decoded; `content` reads its length once more to find what follows it
  have hdel : tagsDelineate ((encodeEvent e).drop 144) = .ok (encodeTags e.tags) := by
    rw [h144.drop]; exact tagsDelineate_encode e.tags htg _
  have hdec := tagsDecode_encode e.tags htg
  have r144 : rd16 (encodeEvent e) 144 = .ok (tagsSize e.tags) := by
    have h := h144
    simp only [encodeTags, List.append_assoc] at h
    exact (rd16_next 144 h (Nat.lt_succ_of_le htg)).1
  -- the content is part of the event, which fits
  obtain ⟨rT, hC⟩ := rd32_next (144 + tagsSize e.tags) (h144.skip _ (by rw [encodeTags_length]))
    (Nat.lt_succ_of_le (Nat.le_trans (Nat.le_add_left _ _) hc))
  have sC := (slice_next (144 + tagsSize e.tags + 4) (r := []) (by rwa [List.append_nil]) rfl).1
  unfold eventDecode
  simp only [r4, r8, s16, s48, s80, Nat.not_lt.mpr h144.le, if_false, hdel, hdec, r144, rT, sC]

theorem rd32_encodeEvent (e : EventRec) (hs : EventSized e) (rest : Bytes) :
    rd32 (encodeEvent e ++ rest) 0 = .ok (encodeEvent e).length := by
  rw [(rd32_next 0 (encodeEvent_at e rest) (by rw [encodeTags_length]; exact Nat.lt_succ_of_le hs.content)).1,
    encodeTags_length, encodeEvent_length e hs]

theorem encodeEvent_length_ge (e : EventRec) (hs : EventSized e) : 152 ≤ (encodeEvent e).length := by
  rw [encodeEvent_length e hs]; unfold eventSize tagsSize; omega

theorem eventDelineate_encode (e : EventRec) (hs : EventSized e) (rest : Bytes) :
    eventDelineate (encodeEvent e ++ rest) = .ok (encodeEvent e) := by
  have hle : (encodeEvent e).length ≤ (encodeEvent e ++ rest).length := by
    rw [List.length_append]; exact Nat.le_add_right _ _
  unfold eventDelineate
  rw [if_neg (Nat.not_lt.mpr (Nat.le_trans (encodeEvent_length_ge e hs) hle)), rd32_encodeEvent e hs]
  dsimp only
  rw [if_neg (Nat.not_lt.mpr hle), List.take_left' rfl]

theorem eventFromRec_eq (e : EventRec) (buf : Bytes) :
    eventFromRec e buf =
      if tagsSize e.tags > 65535 ∨ eventSize (tagsSize e.tags) e.content.length > 4294967295 ∨
          buf.length < eventSize (tagsSize e.tags) e.content.length then .err
      else .ok (encodeEvent e ++ buf.drop (eventSize (tagsSize e.tags) e.content.length)) := by
  unfold eventFromRec eventFromParts encodeEvent
  simp only [encodeTags_length, ite_ite_same]

/-- every accessor reads the event back from the buffer the parser filled -/
theorem eventDecode_take (e : EventRec) (hs : EventSized e) (tail : Bytes) :
    eventDecode ((encodeEvent e ++ tail).take (encodeEvent e).length) = .ok e := by
  rw [List.take_left' rfl]
  exact eventDecode_encode e hs

theorem flat32_length (xs : List Bytes) (h : ∀ x ∈ xs, x.length = 32) :
    (flat32 xs).length = xs.length * 32 := by
  induction xs with
  | nil => rfl
  | cons x xs ih =>
    simp only [flat32, List.length_append, List.length_cons, h x (by simp),
      ih (fun y hy => h y (by simp [hy]))]; omega

theorem flatKinds_length (ks : List Nat) : (flatKinds ks).length = ks.length * 2 := by
  induction ks with
  | nil => rfl
  | cons k ks ih => simp only [flatKinds, List.length_append, le16_length, List.length_cons, ih]; omega

theorem encodeFilter_length (f : FilterRec) (hs : FilterSized f) :
    (encodeFilter f).length = filterSize f.ids.length f.authors.length f.kinds.length (tagsSize f.tags) := by
  simp only [encodeFilter, encodeFilterWith, filterSize, List.length_append, List.length_cons, List.length_nil, le32_length,
    le16_length, le64_length, flat32_length f.ids hs.ids, flat32_length f.authors hs.authors, flatKinds_length, encodeTags_length]

theorem readItems32_flat (xs : List Bytes) (rest : Bytes) (hx : ∀ x ∈ xs, x.length = 32) :
    readItems32 xs.length (flat32 xs ++ rest) = xs := by
  induction xs with
  | nil => rfl
  | cons x xs ih =>
    have hx1 : x.length = 32 := hx x (by simp)
    simp only [flat32, List.append_assoc, List.length_cons, readItems32]
    rw [List.take_left' hx1, List.drop_left' hx1, hx1]
    simp only [Nat.lt_irrefl, if_false, ih (fun y hy => hx y (by simp [hy]))]

theorem readKinds_flat (ks : List Nat) (rest : Bytes) (hk : ∀ k ∈ ks, k < 65536) :
    readKinds ks.length (flatKinds ks ++ rest) = ks := by
  induction ks with
  | nil => rfl
  | cons k ks ih =>
    have hk1 : k < 65536 := hk k (by simp)
    simp only [flatKinds, le16, List.length_cons, readKinds, List.cons_append, List.nil_append,
      ih (fun y hy => hk y (by simp [hy]))]
    congr 1
    exact (leVal_le16 k).trans (Nat.mod_eq_of_lt hk1)

theorem encodeFilter_at (f : FilterRec) (rest : Bytes) :
    At (encodeFilter f ++ rest) 0 (le32 (filterSize f.ids.length f.authors.length f.kinds.length (encodeTags f.tags).length) ++
      (le16 f.ids.length ++ (le16 f.authors.length ++ (le16 f.kinds.length ++ ([0, 0] ++
      (le32 f.limit ++ (le64 f.since ++ (le64 f.until ++ (flat32 f.ids ++ (flat32 f.authors ++
      (flatKinds f.kinds ++ (encodeTags f.tags ++ rest)))))))))))) :=
  ⟨Nat.zero_le _, by simp only [List.drop_zero, encodeFilter, encodeFilterWith, List.append_assoc]⟩

/-- every accessor and iterator of a written `Filter` returns the part it was built from -/
theorem filterDecode_encode (f : FilterRec) (hs : FilterSized f) : filterDecode (encodeFilter f) = .ok f := by
  obtain ⟨hi, ha, hk, hni, hna, hnk, htg, hsi, hun, hli⟩ := hs
  have h0 := encodeFilter_at f []
  rw [List.append_nil] at h0
  obtain ⟨r4, h6⟩ := rd16_next 4 (h0.skip 4 rfl) (Nat.lt_succ_of_le hni)
  obtain ⟨r6, h8⟩ := rd16_next 6 h6 (Nat.lt_succ_of_le hna)
  obtain ⟨r8, h10⟩ := rd16_next 8 h8 (Nat.lt_succ_of_le hnk)
  obtain ⟨r12, h16⟩ := rd32_next 12 (h10.skip 12 rfl) hli
  obtain ⟨r16, h24⟩ := rd64_next 16 h16 hsi
  obtain ⟨r24, h32⟩ := rd64_next 24 h24 hun
  have hA := h32.skip (32 + f.ids.length * 32) (by rw [flat32_length f.ids hi])
  have hK := hA.skip (32 + f.ids.length * 32 + f.authors.length * 32) (by rw [flat32_length f.authors ha])
  have hT := hK.skip (32 + f.ids.length * 32 + f.authors.length * 32 + f.kinds.length * 2) (by rw [flatKinds_length])
  have hdel := tagsDelineate_encode f.tags htg []
  have hdec := tagsDecode_encode f.tags htg
  unfold filterDecode
  simp only [r4, r6, r8, r12, r16, r24, Nat.not_lt.mpr hT.le, if_false, hT.drop, h32.drop, hA.drop, hK.drop, hdel, hdec,
    readItems32_flat _ _ hi, readItems32_flat _ _ ha, readKinds_flat _ _ hk]

theorem filterFromRec_eq (f : FilterRec) (buf : Bytes) :
    filterFromRec f buf =
      if tagsSize f.tags > 65535 ∨ (f.ids.length > 65535 ∨ f.authors.length > 65535 ∨ f.kinds.length > 65535) ∨
          filterSize f.ids.length f.authors.length f.kinds.length (tagsSize f.tags) > 4294967295 ∨
          buf.length < filterSize f.ids.length f.authors.length f.kinds.length (tagsSize f.tags) then .err
      else .ok (encodeFilter f ++ buf.drop (filterSize f.ids.length f.authors.length f.kinds.length (tagsSize f.tags))) := by
  unfold filterFromRec filterFromParts encodeFilter
  simp only [encodeTags_length, ite_ite_same]

end Pocket
