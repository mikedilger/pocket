import Pocket.Lemmas.JsonText
import Pocket.Lemmas.Burn
import Pocket.Lemmas.Digits
import Pocket.Lemmas.Hex
import Pocket.Spec.EventText
/- One member of an event object (C01): each of the seven members, with any whitespace around the colon, is read by `evMember`
in whatever state the parser is (`evMember_mem`), and the state is determined by the members seen so far (`SeenInv`), `content`
before `tags` included. -/
namespace Pocket

theorem nextObjectField_sep (w3 : Bytes) (last : Bool) (X : Bytes) (h : AllWs w3) :
    nextObjectField (Sep w3 last X) = .ok (last, X) := by
  unfold nextObjectField Sep
  cases last
  · simp only [Bool.false_eq_true, if_false]
    rw [eatWs_ws_keep w3 44 X h (by decide)]; simp
  · simp only [if_true]
    rw [eatWs_ws_keep w3 125 X h (by decide)]; simp

theorem Sep_length (w3 : Bytes) (last : Bool) (X : Bytes) : (Sep w3 last X).length = w3.length + (X.length + 1) := by
  rw [Sep, List.length_append, List.length_cons]

theorem headNotNum_sep (w3 : Bytes) (last : Bool) (X : Bytes) (h : AllWs w3) : HeadNotNum (Sep w3 last X) :=
  headNotNum_sepws w3 (fun b hb => Or.inl (h b hb)) _ X (by cases last <;> decide)

/-- what `evMember_mem` assumes of the event, the two spellings and the buffer; `hcap` is `eventSize (tagsSize e.tags) e.content.length ≤ cap`
written out for `omega` -/
structure ECtx (e : EventRec) (tj ec : Bytes) (cap : Nat) : Prop where
  sized : EventSized e
  bid : ∀ b ∈ e.id, b < 256
  bpk : ∀ b ∈ e.pubkey, b < 256
  bsig : ∀ b ∈ e.sig, b < 256
  htj : TagsText e.tags tj
  hec : Spells e.content ec
  hcap : 144 + tagsSize e.tags + 4 + e.content.length ≤ cap

/-- the parser state after member `m` (`after`: the text after its value), the order of `tags` and `content` decided by `seen` rather
than, as in the parser, by the state, so that `SeenInv_step` never looks at the state -/
def evApply (e : EventRec) (ec : Bytes) (seen : List EMem) (st : EvSt) (m : EMem) (after : Bytes) : EvSt :=
  match m with
  | .id => { st with id := some e.id }
  | .pubkey => { st with pk := some e.pubkey }
  | .sig => { st with sig := some e.sig }
  | .kind => { st with kind := some e.kind }
  | .createdAt => { st with t := some e.createdAt }
  | .tags => { st with tags := some (encodeTags e.tags), content := if .content ∈ seen then some e.content else none }
  | .content => { st with content := if .tags ∈ seen then some e.content else none,
                          contentStart := if .tags ∈ seen then st.contentStart else some (34 :: (ec ++ 34 :: after)) }

/-- the parser state is determined by which members have been seen -/
structure SeenInv (e : EventRec) (ec : Bytes) (seen : List EMem) (st : EvSt) : Prop where
  id : st.id = if EMem.id ∈ seen then some e.id else none
  pk : st.pk = if EMem.pubkey ∈ seen then some e.pubkey else none
  sig : st.sig = if EMem.sig ∈ seen then some e.sig else none
  kind : st.kind = if EMem.kind ∈ seen then some e.kind else none
  t : st.t = if EMem.createdAt ∈ seen then some e.createdAt else none
  tags : st.tags = if EMem.tags ∈ seen then some (encodeTags e.tags) else none
  content : st.content = if EMem.content ∈ seen ∧ EMem.tags ∈ seen then some e.content else none
  cs0 : EMem.content ∉ seen → st.contentStart = none
  cs1 : EMem.content ∈ seen → EMem.tags ∉ seen → ∃ a, st.contentStart = some (34 :: (ec ++ 34 :: a))
  cs2 : ∀ c, st.contentStart = some c → ∃ a, c = 34 :: (ec ++ 34 :: a)

theorem SeenInv_init (e : EventRec) (ec : Bytes) : SeenInv e ec [] {} := by
  constructor <;> simp

section
attribute [local simp] memText keyOf valOf evApply evMember verifyChar startsWith kId kSig kKind kTags kPubkey kContent kCreatedAt

/-- one member, any whitespace around its colon, before a text that does not begin with a digit (it would be read into
`kind` / `created_at`) -/
theorem evMember_mem (e : EventRec) (tj ec : Bytes) (cap : Nat) (hc : ECtx e tj ec cap) (seen : List EMem)
    (st : EvSt) (hinv : SeenInv e ec seen st) (m : EMem) (hm : m ∉ seen) (w1 w2 : Bytes) (h1 : AllWs w1) (h2 : AllWs w2)
    (after : Bytes) (hafter : NoLeadingDigit after) :
    evMember st (memText e tj ec m w1 w2 ++ after) cap = .ok (evApply e ec seen st m after, after) := by
  obtain ⟨⟨s1, s2, s3, s4, s5, s6, s7⟩, bid, bpk, bsig, htj, hec, hcap⟩ := hc
  unfold eventSize at s7
  have hrc := fun rest => readContent_spells e.content ec rest cap (144 + (encodeTags e.tags).length) hec
    (by rw [encodeTags_length]; omega) (by rw [encodeTags_length]; omega)
  -- in each case: not yet seen (`hf`), colon and blanks eaten (`hcol`), value read (the last lemma); `simp` evaluates the
  -- parser's key tests on the literal key
  cases m with
  | id =>
    have hf : st.id = none := by rw [hinv.id, if_neg hm]
    have hcol := eatColon_ws w1 w2 34 (hexOf e.id ++ 34 :: after) h1 h2 (by decide)
    simp [hf, hcol, readHexField_hexOf 32 e.id after s1 bid]
  | pubkey =>
    have hf : st.pk = none := by rw [hinv.pk, if_neg hm]
    have hcol := eatColon_ws w1 w2 34 (hexOf e.pubkey ++ 34 :: after) h1 h2 (by decide)
    simp [hf, hcol, readHexField_hexOf 32 e.pubkey after s2 bpk]
  | sig =>
    have hf : st.sig = none := by rw [hinv.sig, if_neg hm]
    have hcol := eatColon_ws w1 w2 34 (hexOf e.sig ++ 34 :: after) h1 h2 (by decide)
    simp [hf, hcol, readHexField_hexOf 64 e.sig after s3 bsig]
  | kind =>
    have hf : st.kind = none := by rw [hinv.kind, if_neg hm]
    simp [hf, eatColon_ws_dec w1 w2 e.kind after h1 h2, readKind_decOf e.kind after s4 hafter]
  | createdAt =>
    have hf : st.t = none := by rw [hinv.t, if_neg hm]
    simp [hf, eatColon_ws_dec w1 w2 e.createdAt after h1 h2, readU64_decOf e.createdAt after s5 hafter]
  | tags =>
    have hf : st.tags = none := by rw [hinv.tags, if_neg hm]
    have hcol := eatColon_ws_tags w1 w2 e.tags tj after htj h1 h2
    have hrt := readTagsArray_text e.tags tj after htj (cap - 144) s6 (by omega)
    by_cases hcseen : EMem.content ∈ seen
    · -- the content came first and was skipped: it is read now, from where it starts
      obtain ⟨a, hcs⟩ := hinv.cs1 hcseen hm
      simp [hf, hcol, hrt, hcs, hcseen, hrc]
    · have hcs := hinv.cs0 hcseen
      have hcn : st.content = none := by rw [hinv.content, if_neg fun h => hcseen h.1]
      simp [hf, hcol, hrt, hcs, hcseen, hcn]
  | content =>
    have hf : st.content = none := by rw [hinv.content, if_neg fun h => hm h.1]
    have hcol := eatColon_ws w1 w2 34 (ec ++ 34 :: after) h1 h2 (by decide)
    by_cases htseen : EMem.tags ∈ seen
    · have htg : st.tags = some (encodeTags e.tags) := by rw [hinv.tags, if_pos htseen]
      simp [hf, hcol, htg, hrc, htseen]
    · -- the tags are still to come: the content is skipped
      have htg : st.tags = none := by rw [hinv.tags, if_neg htseen]
      have hb := burnString_spells e.content ec after hec
      simp [hf, hcol, htg, hb, htseen]

end

theorem seen_snoc {β : Type} (a m : EMem) (seen : List EMem) (v : β) (x : Option β)
    (h : x = if a ∈ seen then some v else none) :
    (if m = a then some v else x) = if a ∈ seen ++ [m] then some v else none := by
  by_cases hm : m = a
  · rw [if_pos hm, if_pos (List.mem_append_right _ (List.mem_singleton.mpr hm.symm))]
  · rw [if_neg hm, h]
    by_cases hs : a ∈ seen
    · rw [if_pos hs, if_pos (List.mem_append_left _ hs)]
    · rw [if_neg hs, if_neg fun h' => (List.mem_append.mp h').elim hs fun h'' => hm (List.mem_singleton.mp h'').symm]

theorem SeenInv_step (e : EventRec) (ec : Bytes) (seen : List EMem) (st : EvSt) (h : SeenInv e ec seen st)
    (m : EMem) (after : Bytes) : SeenInv e ec (seen ++ [m]) (evApply e ec seen st m after) := by
  obtain ⟨i1, i2, i3, i4, i5, i6, i7, i8, i9, i10⟩ := h
  have old : ∀ {a : EMem}, a ≠ m → a ∈ seen ++ [m] → a ∈ seen := fun ha h =>
    (List.mem_append.mp h).resolve_right fun h' => ha (List.mem_singleton.mp h')
  have f1 := seen_snoc .id m seen e.id _ i1
  have f2 := seen_snoc .pubkey m seen e.pubkey _ i2
  have f3 := seen_snoc .sig m seen e.sig _ i3
  have f4 := seen_snoc .kind m seen e.kind _ i4
  have f5 := seen_snoc .createdAt m seen e.createdAt _ i5
  have f6 := seen_snoc .tags m seen (encodeTags e.tags) _ i6
  cases m
  -- `f1` … `f6` fit as they are: for a concrete member `if EMem.kind = EMem.id then … else st.id` reduces, through the derived
  -- `DecidableEq EMem`, to the field `evApply` sets or leaves
  case id | pubkey | sig | kind | createdAt | tags =>
    refine ⟨f1, f2, f3, f4, f5, f6, ?_, fun h => i8 fun hc => h (List.mem_append_left _ hc),
      fun hc ht => i9 (old (by decide) hc) fun h => ht (List.mem_append_left _ h), i10⟩
    simp only [evApply, i7, List.mem_append, List.mem_singleton, reduceCtorEq, or_false, or_true, and_true]
  case content =>
    have cs2 : ∀ c, (if EMem.tags ∈ seen then st.contentStart else some (34 :: (ec ++ 34 :: after))) = some c →
        ∃ a, c = 34 :: (ec ++ 34 :: a) := fun c hc => by
      by_cases ht : EMem.tags ∈ seen
      · exact i10 c ((if_pos ht).symm.trans hc)
      · exact ⟨after, (Option.some.inj ((if_neg ht).symm.trans hc)).symm⟩
    refine ⟨f1, f2, f3, f4, f5, f6, ?_, fun h => absurd (List.mem_append_right _ (List.mem_singleton_self _)) h,
      fun _ ht => ⟨after, if_neg fun h => ht (List.mem_append_left _ h)⟩, cs2⟩
    simp only [evApply, List.mem_append, List.mem_singleton, or_true, true_and, reduceCtorEq, or_false]
end Pocket
