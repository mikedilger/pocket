import Pocket.Model.ParseFilter
import Pocket.Lemmas.Digits
import Pocket.Lemmas.Spelling
import Pocket.Lemmas.Burn
/- The arrays `Filter::as_json` writes and how the two passes of `parse_json_filter` read them: the first skips
(`skipToBracket`, `burnArray`), the second copies (`copyHex32`, `copyKinds`, `copyTagValues`). -/
namespace Pocket

theorem skipToBracket_no93 (a : Bytes) (h : ∀ b ∈ a, b ≠ 93) (R : Bytes) :
    skipToBracket (a ++ 93 :: R) = 93 :: R := by
  induction a with
  | nil => simp [skipToBracket]
  | cons b a ih =>
    have hb := h b (by simp)
    simp only [List.cons_append, skipToBracket, hb, if_false]
    exact ih (fun x hx => h x (by simp [hx]))

theorem flArrayField_text (a : Bytes) (h : ∀ b ∈ a, b ≠ 93) (R : Bytes) :
    flArrayField (91 :: (a ++ 93 :: R)) = .ok (a ++ 93 :: R, R) := by
  simp [flArrayField, verifyChar, skipToBracket_no93 a h R]

theorem idsJson_no93 (l : List Bytes) (first : Bool) : ∀ b ∈ idsJson l first, b ≠ 93 := by
  induction l generalizing first with
  | nil => intro b hb; cases hb
  | cons x l ih =>
    intro b hb
    simp only [idsJson, List.mem_append, List.mem_cons, List.not_mem_nil, or_false] at hb
    rcases hb with ((((hb | hb) | hb) | hb) | hb)
    · split at hb
      · cases hb
      · simp at hb; omega
    · omega
    · have := hexOf_range x b hb; omega
    · omega
    · exact ih false b hb

theorem kindsJson_no93 (l : List Nat) (first : Bool) : ∀ b ∈ kindsJson l first, b ≠ 93 := by
  induction l generalizing first with
  | nil => intro b hb; cases hb
  | cons k l ih =>
    intro b hb
    simp only [kindsJson, List.mem_append] at hb
    rcases hb with ((hb | hb) | hb)
    · split at hb
      · cases hb
      · simp at hb; omega
    · have := decDigits_digits _ _ b hb; omega
    · exact ih false b hb

/-- `as_json`'s separator: nothing before the first item, one comma before every other -/
theorem sepWs_comma (first : Bool) : SepWs (if first then [] else [44]) := by
  cases first <;> simp [SepWs]

theorem eatWsC_sep (first : Bool) (b : Nat) (r : Bytes) (h1 : isWs b = false) (h2 : b ≠ 44) :
    eatWsC ((if first then [] else [44]) ++ b :: r) = b :: r :=
  eatWsC_sepws _ b r (sepWs_comma first) h1 h2

theorem copyHex32_idsJson (l : List Bytes) (hl : ∀ x ∈ l, x.length = 32 ∧ ∀ b ∈ x, b < 256) (first : Bool)
    (R : Bytes) (endPos cap n : Nat) (hcap : endPos + 32 * l.length ≤ cap) (hn : n + l.length ≤ 65535)
    (fuel : Nat) (hf : l.length + 1 ≤ fuel) :
    copyHex32 fuel (idsJson l first ++ 93 :: R) endPos cap n = .ok l := by
  induction l generalizing first endPos n fuel with
  | nil =>
    obtain ⟨f, rfl⟩ := exists_eq_add_one_of_le hf
    simp [idsJson, copyHex32, eatWsC, isWs]
  | cons x l ih =>
    obtain ⟨f, rfl⟩ := exists_eq_add_one_of_le hf
    obtain ⟨hx1, hx2⟩ := hl x (by simp)
    simp only [List.length_cons] at hcap hn hf
    have hshape : idsJson (x :: l) first ++ 93 :: R =
        (if first then [] else [44]) ++ 34 :: (hexOf x ++ 34 :: (idsJson l false ++ 93 :: R)) := by
      simp [idsJson]
    rw [hshape]
    have hws := eatWsC_sep first 34 (hexOf x ++ 34 :: (idsJson l false ++ 93 :: R)) (by decide) (by decide)
    have ih' := ih (fun y hy => hl y (by simp [hy])) false (endPos + 32) (n + 1) (by omega) (by omega) f (Nat.le_of_succ_le_succ hf)
    unfold copyHex32
    rw [hws]
    simp only [show (34 : Nat) ≠ 93 from by decide, if_false]
    rw [if_neg (by omega), if_neg (by omega), readHexField_hexOf 32 x _ hx1 hx2]
    simp only []
    rw [if_neg (by omega), ih']

theorem copyKinds_kindsJson (l : List Nat) (hl : ∀ k ∈ l, k < 65536) (first : Bool)
    (R : Bytes) (endPos cap n : Nat) (hcap : endPos + 2 * l.length ≤ cap) (hn : n + l.length ≤ 65535)
    (fuel : Nat) (hf : l.length + 1 ≤ fuel) :
    copyKinds fuel (kindsJson l first ++ 93 :: R) endPos cap n = .ok l := by
  induction l generalizing first endPos n fuel with
  | nil =>
    obtain ⟨f, rfl⟩ := exists_eq_add_one_of_le hf
    simp [kindsJson, copyKinds, eatWsC, isWs]
  | cons k l ih =>
    obtain ⟨f, rfl⟩ := exists_eq_add_one_of_le hf
    have hk := hl k (by simp)
    simp only [List.length_cons] at hcap hn hf
    obtain ⟨d, ds, hdec, hd1, hd2⟩ := decOf_head k
    have hru := readU64_decOf k (kindsJson l false ++ 93 :: R) (by omega)
      (by cases l <;> exact noLeadingDigit_of _ _ (by decide))
    have ih' := ih (fun y hy => hl y (by simp [hy])) false (endPos + 2) (n + 1) (by omega) (by omega) f (Nat.le_of_succ_le_succ hf)
    -- after the separator the text starts with the first digit of `k`: neither a blank, a comma nor `]`
    have htxt : kindsJson (k :: l) first ++ 93 :: R =
        (if first then [] else [44]) ++ d :: (ds ++ (kindsJson l false ++ 93 :: R)) := by
      simp [kindsJson, hdec]
    rw [htxt]
    unfold copyKinds
    rw [eatWsC_sep first d _ ((isWs_eq_false d).mpr (by omega)) (by omega)]
    simp only [show d ≠ 93 from by omega, if_false]
    rw [show d :: (ds ++ (kindsJson l false ++ 93 :: R)) = decOf k ++ (kindsJson l false ++ 93 :: R) from by rw [hdec]; rfl,
      hru]
    simp only []
    rw [if_neg (by omega), if_neg (by omega), if_neg (by omega), ih']

theorem ftagValuesJson_cons_inv (v : Bytes) (vs : List Bytes) (first : Bool) (txt : Bytes)
    (h : ftagValuesJson (v :: vs) first = .ok txt) :
    ∃ e r, jsonEscape v = .ok e ∧ ftagValuesJson vs false = .ok r ∧
      txt = (if first then [] else [44]) ++ [34] ++ e ++ [34] ++ r := by
  unfold ftagValuesJson at h
  split at h
  · rename_i e r he hr
    simp only [Outcome.ok.injEq] at h
    exact ⟨e, r, he, hr, h.symm⟩
  · cases h
  · cases h
  · cases h

theorem ftagValuesJson_ok (vs : List Bytes) (hu : ∀ v ∈ vs, IsUtf8 v) (first : Bool) :
    ∃ txt, ftagValuesJson vs first = .ok txt := by
  induction vs generalizing first with
  | nil => exact ⟨[], rfl⟩
  | cons v vs ih =>
    obtain ⟨e, he⟩ := IsUtf8_escape v (hu v (by simp))
    obtain ⟨r, hr⟩ := ih (fun x hx => hu x (by simp [hx])) false
    simp only [ftagValuesJson, he, hr]
    exact ⟨_, rfl⟩

theorem ftagValuesJson_length (vs : List Bytes) (first : Bool) (txt : Bytes)
    (h : ftagValuesJson vs first = .ok txt) : vs.length ≤ txt.length := by
  induction vs generalizing first txt with
  | nil => simp
  | cons v vs ih =>
    obtain ⟨e, r, _, hr, rfl⟩ := ftagValuesJson_cons_inv v vs first txt h
    have := ih false r hr
    simp; omega

/-- the values `as_json` writes for a tag constraint are, with the closing bracket, the inside of an array of the grammar `JT` -/
theorem ftagValuesJson_jt (vs : List Bytes) (hu : ∀ v ∈ vs, IsUtf8 v) (first : Bool) (vj : Bytes)
    (h : ftagValuesJson vs first = .ok vj) : JT .elems 0 (vj ++ [93]) ∧ HeadNotNum (vj ++ [93]) := by
  induction vs generalizing first vj with
  | nil =>
    simp only [ftagValuesJson, Outcome.ok.injEq] at h
    subst h
    exact ⟨.eEnd [] nofun, headNotNum_sepws [] nofun 93 [] (by decide)⟩
  | cons v vs ih =>
    obtain ⟨e, r, he, hr, rfl⟩ := ftagValuesJson_cons_inv v vs first vj h
    obtain ⟨hjt, hnn⟩ := ih (fun x hx => hu x (by simp [hx])) false r hr
    obtain ⟨cps, hs, _⟩ := jsonEscape_spells v e (hu v (by simp)) he
    have hshape : ((if first then [] else [44]) ++ [34] ++ e ++ [34] ++ r) ++ [93] =
        (if first then [] else [44]) ++ ((34 :: (e ++ [34])) ++ (r ++ [93])) := by simp
    rw [hshape]
    exact ⟨.eCons _ _ _ (sepWs_comma first) (.str e hs.strBody) hjt hnn, headNotNum_sepws _ (sepWs_comma first) 34 _ (by decide)⟩

/-- the first pass skips a tag constraint's values by `burn_jt`, like every array -/
theorem burnArray_values (vs : List Bytes) (hu : ∀ v ∈ vs, IsUtf8 v) (first : Bool) (vj R : Bytes)
    (h : ftagValuesJson vs first = .ok vj) (fuel : Nat) (hf : vj.length + 2 ≤ fuel) :
    burnArray fuel (vj ++ 93 :: R) 0 = .ok R := by
  obtain ⟨f, rfl⟩ := exists_eq_add_one_of_le hf
  have := burn_jt (ftagValuesJson_jt vs hu first vj h).1 0 f R (by decide) (by simp; omega) nofun
  simpa [BurnsTo] using this

theorem copyTagValues_values (vs : List Bytes) (hu : ∀ v ∈ vs, IsUtf8 v) (first : Bool) (vj R : Bytes)
    (h : ftagValuesJson vs first = .ok vj) (endPos cap count : Nat)
    (hcap : endPos + strsSize vs ≤ cap) (hn : count + vs.length ≤ 65535)
    (fuel : Nat) (hf : vs.length + 1 ≤ fuel) :
    copyTagValues fuel (vj ++ 93 :: R) endPos cap count = .ok vs := by
  induction vs generalizing first vj endPos count fuel with
  | nil =>
    obtain ⟨f, rfl⟩ := exists_eq_add_one_of_le hf
    simp only [ftagValuesJson, Outcome.ok.injEq] at h
    subst h
    simp [copyTagValues, eatWsC, isWs]
  | cons v vs ih =>
    obtain ⟨f, rfl⟩ := exists_eq_add_one_of_le hf
    obtain ⟨e, r, he, hr, rfl⟩ := ftagValuesJson_cons_inv v vs first vj h
    have hshape : ((if first then [] else [44]) ++ [34] ++ e ++ [34] ++ r) ++ 93 :: R =
        (if first then [] else [44]) ++ 34 :: (e ++ 34 :: (r ++ 93 :: R)) := by simp
    rw [hshape]
    simp only [strsSize, List.length_cons] at hcap hn hf
    have hws := eatWsC_sep first 34 (e ++ 34 :: (r ++ 93 :: R)) (by decide) (by decide)
    have hun := unescape_escape v e (r ++ 93 :: R) (cap - (endPos + 2)) (hu v (by simp)) he (by omega)
    have ih' := ih (fun x hx => hu x (by simp [hx])) false r hr (endPos + 2 + v.length) (count + 1)
      (by omega) (by omega) f (Nat.le_of_succ_le_succ hf)
    unfold copyTagValues
    rw [hws]
    simp only [show (34 : Nat) ≠ 93 from by decide, if_false, verifyChar, if_true]
    rw [if_neg (by omega), hun]
    simp only []
    rw [if_neg (by omega), drop_len_succ, ih']

theorem idsJson_length (l : List Bytes) (first : Bool) : l.length ≤ (idsJson l first).length := by
  induction l generalizing first with
  | nil => simp
  | cons x l ih => have := ih false; simp [idsJson]; omega

theorem kindsJson_length (l : List Nat) (first : Bool) : l.length ≤ (kindsJson l first).length := by
  induction l generalizing first with
  | nil => simp
  | cons k l ih =>
    have := ih false
    obtain ⟨d, ds, hd, _, _⟩ := decOf_head k
    simp [kindsJson, hd]; omega

end Pocket
