import Pocket.Model.Store
import Pocket.Lemmas.Digits
import Pocket.Lemmas.Hex
/- `Addr::try_from_bytes` reads `kind:pubkey-hex:d` back exactly (C11): the address an `a` tag names is the one that gets marked. -/
namespace Pocket

theorem splitOnColon_no58 (a : Bytes) (h : ∀ b ∈ a, b ≠ 58) (rest : Bytes) :
    splitOnColon (a ++ 58 :: rest) = (a, some rest) := by
  induction a with
  | nil => simp [splitOnColon]
  | cons b a ih =>
    have hb := h b (by simp)
    simp only [List.cons_append, splitOnColon, hb, if_false]
    rw [ih (fun x hx => h x (by simp [hx]))]

/-- `str::parse::<u16>`'s digit loop is that of the JSON readers, except that it refuses input that does not end with the digits -/
theorem parseDigitsU16_eq (inp : Bytes) (acc : Nat) (any : Bool) :
    parseDigitsU16 inp acc = match digitLoop 65535 inp acc any with
      | .ok (v, _, []) => some v
      | _ => none := by
  induction inp generalizing acc any with
  | nil => rfl
  | cons b r ih =>
    rw [parseDigitsU16, digitLoop, show parseDigitsU16.isDigitB b = isDigit b from rfl]
    by_cases hd : isDigit b = true
    · rw [if_pos hd, if_pos hd]
      by_cases hv : acc * 10 + (b - 48) > 65535
      · rw [if_pos hv, if_pos hv]
      · rw [if_neg hv, if_neg hv]; exact ih _ true
    · rw [if_neg hd, if_neg hd]

theorem parseU16_decOf (k : Nat) (hk : k < 65536) : parseU16 (decOf k) = some k := by
  obtain ⟨d, ds, hd, h1, h2⟩ := decOf_head k
  unfold parseU16
  rw [hd]
  simp only [show d ≠ 43 from by omega, if_false]
  rw [← hd, decOf, parseDigitsU16_eq _ 0 false, ← List.append_nil (decDigits (k + 1) k),
    digitLoop_digits 65535 (k + 1) k [] false (by omega), if_pos (by omega)]
  rfl

/-- the text `kind:pubkey:d` reads back as that address, whatever bytes `d` holds (colons included) -/
theorem parseAddr_text (k : Nat) (pk d : Bytes) (hk : k < 65536) (hpk : pk.length = 32)
    (hb : ∀ b ∈ pk, b < 256) :
    parseAddr (decOf k ++ 58 :: (hexOf pk ++ 58 :: d)) = some (k, pk, d) := by
  have hdig : ∀ b ∈ decOf k, b ≠ 58 := by
    intro b hb'
    have := decDigits_digits _ _ b hb'
    omega
  unfold parseAddr
  rw [splitOnColon_no58 (decOf k) hdig]
  simp only [parseU16_decOf k hk]
  rw [splitOnColon_no58 (hexOf pk) fun b hb' => by have := hexOf_range pk b hb'; omega]
  simp only []
  unfold readHex
  have hl := hexOf_length pk
  rw [if_neg (by simp [hl, hpk]), unhexPairs_hexOf pk hb]

end Pocket
