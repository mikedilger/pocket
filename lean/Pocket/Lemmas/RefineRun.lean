import Pocket.Lemmas.Refine
import Pocket.Lemmas.Vanish
import Pocket.Spec.AbsOp
import Pocket.Spec.StoreInv
/- Refinement along histories: one step theorem and one induction (`run_refines_of`); `vanish` needs the query lemmas, through
`Lemmas/Vanish.lean`. -/
namespace Pocket

theorem vanish_refines (s : Store) (hi : Inv s) (hau : AddrUniq s.db.live) (hlen : s.db.live.length < U32MAX)
    (ht : ∀ y ∈ s.db.live, y.e.createdAt ≤ U64MAX) (pk : Bytes) :
    Abs.of (vanish s pk) = absVanish (Abs.of s) pk := by
  simp only [vanish_eq, Abs.of, absVanish, vanishLive_eq_filter s.db.live hi.liveIds hau hlen ht pk]
  congr 1
  exact map_event_filter s.db.live (fun e => !(e.pubkey == pk) && !(e.kind == 1059 && tagsMatch e.tags KEY_P (hexOf pk)))

/-- what `vanish_refines` asks of the state; the other operations ask nothing -/
def stepOk (s : Store) : Op → Prop
  | .vanish _ => AddrUniq s.db.live ∧ s.db.live.length < U32MAX ∧ ∀ y ∈ s.db.live, y.e.createdAt ≤ U64MAX
  | _ => True

theorem step_refines (s : Store) (hi : Inv s) (op : Op) (hok : stepOk s op) :
    Abs.of (step s op) = absOp (Abs.of s) op := by
  cases op with
  | store e => exact (storeEvent_refines s hi e).2
  | remove id => exact removeEvent_refines s id
  | vanish pk => exact vanish_refines s hi hok.1 hok.2.1 hok.2.2 pk
  | reopen => rfl
  | rebuild => exact rebuild_refines s

/-- `P k s`: the state `s` is fit for `k` more operations; the count is there for `vanish`, whose queries are limited to
2^32 − 1 events, while every operation may add one to the index -/
theorem run_refines_of (P : Nat → Store → Prop) (ops : List Op)
    (hP : ∀ k s, P k s → Inv s)
    (hstep : ∀ k s, ∀ op ∈ ops, P (k + 1) s → stepOk s op ∧ P k (step s op))
    (s : Store) (h : P ops.length s) :
    Abs.of (run s ops) = ops.foldl absOp (Abs.of s) := by
  induction ops generalizing s with
  | nil => rfl
  | cons op ops ih =>
    obtain ⟨hok, h'⟩ := hstep ops.length s op (List.mem_cons_self ..) h
    rw [run, List.foldl_cons, List.foldl_cons, ← step_refines s (hP _ s h) op hok]
    exact ih (fun k s o ho => hstep k s o (List.mem_cons_of_mem _ ho)) _ h'

theorem run_refines (ops : List AOp) (s : Store) (hi : Inv s) :
    Abs.of (run s (ops.map AOp.toOp)) = ops.foldl absStep (Abs.of s) := by
  rw [run_refines_of (fun _ => Inv) _ (fun _ _ h => h) (fun _ s op hop h => ⟨?_, Inv_step s op h⟩) s hi, List.foldl_map]
  · congr; funext a op; cases op <;> rfl
  · obtain ⟨o, _, rfl⟩ := List.mem_map.mp hop; cases o <;> trivial

/-- an operation other than vanish (whose refinement needs the bounds of `vanish_refines`) -/
inductive BOp where
  | store (e : EventRec)
  | remove (id : Bytes)
  | reopen
  | rebuild

def BOp.toOp : BOp → Op
  | .store e => .store e
  | .remove id => .remove id
  | .reopen => .reopen
  | .rebuild => .rebuild

/-- histories with rebuilds and without vanish -/
theorem run_refines_rebuild (ops : List BOp) (s : Store) (hi : Inv s) :
    Abs.of (run s (ops.map BOp.toOp)) = (ops.map BOp.toOp).foldl absOp (Abs.of s) :=
  run_refines_of (fun _ => Inv) _ (fun _ _ h => h) (fun _ s op hop h => ⟨by
    obtain ⟨o, _, rfl⟩ := List.mem_map.mp hop; cases o <;> trivial, Inv_step s op h⟩) s hi

/-- the bounds `vanish_refines` needs, with room for `k` more operations, each of which may add an event -/
structure Bounded (s : Store) (k : Nat) : Prop where
  times : ∀ y ∈ s.db.live, y.e.createdAt ≤ U64MAX
  room : s.db.live.length + k < U32MAX

theorem Bounded_step (s : Store) (k : Nat) (hb : Bounded s (k + 1)) (op : Op) (ht : opTimeOk op) : Bounded (step s op) k := by
  obtain ⟨h1, h2⟩ := hb
  -- only a stored event is new in the index, so an operation adds at most one entry
  suffices h : (∀ y ∈ (step s op).db.live, y.e.createdAt ≤ U64MAX) ∧ (step s op).db.live.length ≤ s.db.live.length + 1 from
    ⟨h.1, by have := h.2; omega⟩
  rcases step_cases s op with ⟨e, rfl, h⟩ | ⟨l, hl, h⟩ | ⟨_, h⟩ <;> rw [h]
  · have hsub := storeEvent_live_sublist s e
    refine ⟨fun y hy => ?_, by simpa using hsub.length_le⟩
    rcases List.mem_append.mp (hsub.subset hy) with h | h
    · exact h1 y h
    · rw [List.mem_singleton.mp h]; exact ht
  · exact ⟨fun y hy => h1 y (hl.subset hy), Nat.le_succ_of_le hl.length_le⟩
  · refine ⟨fun y hy => ?_, Nat.le_succ_of_le (Nat.le_of_eq ?_)⟩
    · obtain ⟨z, hz, hze⟩ := rebuild_event_mem s y hy
      rw [← hze]; exact h1 z hz
    · simpa using (rebuild_events_perm s).length_eq

/-- every history from any state that is consistent, holds one event per address and has room for it (`Bounded`) -/
theorem history_refines (s : Store) (hi : Inv s) (hu : AddrUniq s.db.live) (ops : List Op) (hb : Bounded s ops.length)
    (ht : ∀ op ∈ ops, opTimeOk op) : Abs.of (run s ops) = ops.foldl absOp (Abs.of s) :=
  run_refines_of (fun k s => Inv s ∧ AddrUniq s.db.live ∧ Bounded s k) ops (fun _ _ h => h.1)
    (fun k s op hop ⟨hi, hu, hb⟩ =>
      ⟨by
        cases op with
        | vanish pk => exact ⟨hu, Nat.lt_of_le_of_lt (Nat.le_add_right _ _) hb.room, hb.times⟩
        | _ => trivial,
       Inv_step s op hi, AddrUniq_step s op hu hi, Bounded_step s k hb op (ht op hop)⟩)
    s ⟨hi, hu, hb⟩

/-- every history from the empty store, with `u64` timestamps and fewer than 2^32 − 1 operations -/
theorem full_history_refines (ops : List Op) (ht : ∀ op ∈ ops, opTimeOk op) (hlen : ops.length < U32MAX) :
    Abs.of (run {} ops) = ops.foldl absOp (Abs.of {}) :=
  history_refines {} Inv_init nofun ops ⟨nofun, by simpa using hlen⟩ ht

theorem abs_run (ops : List Op) (ht : ∀ op ∈ ops, opTimeOk op) (hlen : ops.length < U32MAX) :
    ops.foldl absOp {} = Abs.of (run {} ops) := (full_history_refines ops ht hlen).symm

end Pocket
