import Pocket.Spec.Match
import Pocket.Spec.IndexKeys
/- `Filter::event_matches` is NIP-01 matching (C06); the query lemmas read the clauses of a match off `eventMatches_iff`. -/
namespace Pocket

/-- one refusing clause of `event_matches`: a non-empty list that does not hold the event's value -/
theorem clause_iff {α} [BEq α] [LawfulBEq α] (l : List α) (x : α) :
    ¬ (!l.isEmpty && !l.any (· == x)) = true ↔ (l = [] ∨ x ∈ l) := by
  rw [List.any_beq']
  cases l <;> simp [Classical.or_iff_not_imp_left]

theorem tagsMatch_iff (ts : TagsRec) (letter v : Bytes) :
    tagsMatch ts letter v = true ↔ ∃ t ∈ ts, t[0]? = some letter ∧ t[1]? = some v := by
  unfold tagsMatch
  simp [List.any_eq_true]

theorem filterTagLoop_iff (etags : TagsRec) (ftags : TagsRec) (h : ∀ c ∈ ftags, c ≠ []) :
    filterTagLoop etags ftags = true ↔
      ∀ c ∈ ftags, ∃ t ∈ etags, ∃ v ∈ c.tail, t[0]? = c.head? ∧ t[1]? = some v := by
  induction ftags with
  | nil => simp [filterTagLoop]
  | cons c rest ih =>
    have hr : ∀ c ∈ rest, c ≠ [] := fun c hc' => h c (by simp [hc'])
    cases c with
    | nil => exact absurd rfl (h [] (by simp))
    | cons letter values =>
      have hv : (values.any fun v => tagsMatch etags letter v) = true ↔
          ∃ t ∈ etags, ∃ v ∈ values, t[0]? = some letter ∧ t[1]? = some v := by
        simp only [List.any_eq_true, tagsMatch_iff]
        exact ⟨fun ⟨v, hv, t, ht, h01⟩ => ⟨t, ht, v, hv, h01⟩, fun ⟨t, ht, v, hv, h01⟩ => ⟨v, hv, t, ht, h01⟩⟩
      simp only [filterTagLoop, List.mem_cons, forall_eq_or_imp, List.tail_cons, List.head?_cons, ← hv, ← ih hr]
      by_cases c : (values.any fun v => tagsMatch etags letter v) = true
      · simp [c]
      · simp [c]

theorem tagClause_iff (etags ftags : TagsRec) (h : ∀ c ∈ ftags, c ≠ []) :
    (if !ftags.isEmpty then (if etags.isEmpty then false else filterTagLoop etags ftags) else true) = true ↔
      ∀ c ∈ ftags, ∃ t ∈ etags, ∃ v ∈ c.tail, t[0]? = c.head? ∧ t[1]? = some v := by
  cases ftags with
  | nil => exact ⟨fun _ c hc => (nomatch hc), fun _ => rfl⟩
  | cons c rest =>
    cases etags with
    | nil =>
      refine ⟨fun hf => (nomatch hf), fun hs => ?_⟩
      obtain ⟨t, ht, _⟩ := hs c (by simp)
      cases ht
    | cons t ts => exact filterTagLoop_iff (t :: ts) (c :: rest) h

theorem eventMatches_iff (f : FilterRec) (e : EventRec) (hn : C06.TagsNamed f) :
    eventMatches f e = true ↔ C06.matchesSpec f e := by
  unfold eventMatches C06.matchesSpec
  rw [Bool.ite_then_false, Bool.ite_then_false, Bool.ite_then_false, Bool.ite_then_false, Bool.ite_then_false,
    clause_iff, clause_iff, clause_iff, Nat.not_lt, Nat.not_lt, tagClause_iff e.tags f.tags hn]

/-- the time window, for any filter -/
theorem eventMatches_window (f : FilterRec) (e : EventRec) (h : eventMatches f e = true) :
    f.since ≤ e.createdAt ∧ e.createdAt ≤ f.until := by
  unfold eventMatches at h
  rw [Bool.ite_then_false, Bool.ite_then_false, Bool.ite_then_false, Bool.ite_then_false, Bool.ite_then_false] at h
  exact ⟨Nat.not_lt.mp h.2.2.2.1, Nat.not_lt.mp h.2.2.2.2.1⟩

/-- `eventMatches_iff` applies to the filters of the query theorems -/
theorem SingleLetter.named {f : FilterRec} (h : SingleLetter f) : C06.TagsNamed f := by
  intro c hc hnil
  obtain ⟨l, vs, rfl⟩ := h c hc
  cases hnil

end Pocket
