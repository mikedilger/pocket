import Pocket.Src.EventStore
import Pocket.Model.EventMap
/- `event_store.rs` (`Pocket/Src/EventStore.lean`, regenerated on every check run) against the model of the event-map file
(`Model/EventMap.lean`). -/
namespace Pocket

/-- `EventStore::new` is `emOpen`.  The remembered length is the file's (not the used part of the mapping); the two 8s are the sizes of
an `usize` and of the header of the mapping -/
theorem em_open_from_source (chunk fileLen marker : Nat) :
    emOpen chunk fileLen marker =
      (let len := Src.esInitLen chunk fileLen marker 8 8
       if len < 8 then .err
       else .ok { fileLen := len, marker := if Src.esNew fileLen marker 8 8 then 8 else marker,
                  memLen := Src.esRemembered len, mapLen := len }) := by
  simp [emOpen, Src.esInitLen, Src.esNew, Src.esRemembered]

/-- `store_event` pads the end marker to a multiple of 8 as `emPad` does -/
theorem em_pad_from_source (m : EMap) : emPad m = Src.esPad m.marker := by
  simp only [emPad, Src.esPad, bne_iff_ne, ne_eq, ite_not]

/-- one round of the grow path of `store_event` is `emGrow`: file, mapping and remembered length become the REMEMBERED length plus one
chunk -/
theorem em_grow_from_source (chunk : Nat) (m : EMap) :
    emGrow chunk m =
      { m with fileLen := (Src.esGrow chunk m.fileLen m.mapLen m.memLen).1,
               mapLen := (Src.esGrow chunk m.fileLen m.mapLen m.memLen).2.1,
               memLen := (Src.esGrow chunk m.fileLen m.mapLen m.memLen).2.2 } := by
  simp [emGrow, Src.esGrow]

end Pocket
