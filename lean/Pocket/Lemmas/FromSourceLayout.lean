import Pocket.Src.Layout
import Pocket.Model.Event
import Pocket.Model.Filter
import Pocket.Lemmas.Layout
import Pocket.Spec.SrcLayout
/- The binary layouts as the source has them today (`Pocket/Src/Layout.lean`, translated from event.rs, filter.rs and tags.rs on
every check run) against the model's encoders and decoders.  `to_ne_bytes` is read as little-endian: the host's byte order, see
the trusted base.  A write loop is a fold over random-access writes `Src.wr`; its invariant splits the buffer into what is written
and what is not (`wr_mid`). -/
namespace Pocket

theorem event_size_from_source (a b : Nat) : Src.eventSize a b = eventSize a b := rfl

/-- the writes of `Event::from_parts`, statement by statement, are the model's encoding -/
theorem event_writer_from_source (id pk sig : Bytes) (kind t : Nat) (tagBytes content : Bytes) :
    Src.encodeEventWith id pk sig kind t tagBytes content = encodeEventWith id pk sig kind t tagBytes content := by
  simp [Src.encodeEventWith, encodeEventWith, Src.eventSize, eventSize, List.append_assoc]

/-- every accessor of `Event` reads where the model's decoder reads -/
theorem event_readers_from_source (b : Bytes) : eventDecodeAt Src.evReads b = eventDecode b := by
  unfold Src.evReads eventDecodeAt eventDecode
  rfl

/-- the 32-byte header `Filter::from_parts` writes heads the model's encoding -/
theorem filter_header_from_source (ids authors : List Bytes) (kinds : List Nat) (tagBytes : Bytes) (since «until» limit : Nat) :
    encodeFilterWith ids authors kinds tagBytes since «until» limit =
      Src.filterHeader (filterSize ids.length authors.length kinds.length tagBytes.length) ids.length authors.length kinds.length
        (some limit) (some since) (some «until») ++ (flat32 ids ++ flat32 authors ++ flatKinds kinds ++ tagBytes) := by
  simp [encodeFilterWith, Src.filterHeader, List.append_assoc]

/-- an absent limit / since / until is written as `u32::MAX` / `0` / `u64::MAX`, which the model and the JSON parser read as absent -/
theorem filter_defaults_from_source (size a b c : Nat) :
    Src.filterHeader size a b c none none none = Src.filterHeader size a b c (some U32MAX) (some 0) (some U64MAX) := by
  simp [Src.filterHeader, U32MAX, U64MAX]

theorem strs_size_fold (tag : List Bytes) (a : Nat) :
    tag.foldl (fun length s => ((length + 2) + s.length)) a = a + strsSize tag := by
  induction tag generalizing a with
  | nil => simp [strsSize]
  | cons s ss ih => simp only [List.foldl_cons, ih, strsSize]; omega

theorem tags_size_fold (ts : TagsRec) (a : Nat) :
    ts.foldl (fun length tag => tag.foldl (fun length s => ((length + 2) + s.length)) (length + 2)) a = a + tagsBodySize ts := by
  induction ts generalizing a with
  | nil => simp [tagsBodySize]
  | cons t ts ih => rw [List.foldl_cons, ih, strs_size_fold]; simp only [tagsBodySize, tagSize]; omega

/-- `Tags::output_size_needed` as the source adds it up (an initial length, `+= …` per tag and per string) is `tagsSize` -/
theorem tags_size_from_source (ts : TagsRec) : Src.tagsSize ts = tagsSize ts := by
  unfold Src.tagsSize tagsSize
  rw [tags_size_fold]

/-- `Tags::from_parts` refuses when the source's two tests do; otherwise the buffer starts with the source's header, the offset table
from the source's first `p` and the tags, and is untouched beyond the source's `length` -/
theorem tags_from_parts_from_source (ts : TagsRec) (buf : Bytes) :
    tagsFromParts ts buf =
      if Src.tagsRejects (Src.tagsSize ts) buf.length then .err
      else .ok (Src.tagsHeader (Src.tagsSize ts) ts.length ++ encOffsets (Src.tagsBodyStart ts.length) ts ++ encTagsBody ts
                ++ buf.drop (Src.tagsSize ts)) := by
  rw [tags_size_from_source, tagsFromParts_eq]
  simp only [Src.tagsRejects, Src.tagsHeader, Src.tagsBodyStart, encodeTags, Bool.or_eq_true, decide_eq_true_eq]

theorem readStrsAt_model (bs : Bytes) (n off : Nat) : readStrsAt 2 2 2 bs n off = readStrs bs n off := by
  induction n generalizing off with
  | zero => simp [readStrsAt, readStrs]
  | succ n ih =>
    have h (len : Nat) : off + 2 + len - (off + 2) = len := Nat.add_sub_cancel_left ..
    simp only [readStrsAt, readStrs, ih, h]
    rfl

theorem readTagsFromAt_model (bs : Bytes) (count n i : Nat) :
    readTagsFromAt 4 2 2 2 2 2 bs count n i = readTagsFrom bs count n i := by
  induction n generalizing i with
  | zero => simp [readTagsFromAt, readTagsFrom]
  | succ n ih => simp only [readTagsFromAt, readTagsFrom, ih, readStrsAt_model]; rfl

/-- `Tags::delineate`, `Tags::count`, `TagsIter::next` and `TagsStringIter::next` read where `tagsDelineate` and `tagsDecode` read: on
every input the same section and tags, or the same refusal / panic -/
theorem tag_readers_from_source (inp : Bytes) :
    tagsReadAt Src.tagReads inp =
      (match tagsDelineate inp with
       | .ok sec => .ok (sec, tagsDecode sec)
       | .err => .err
       | .panic => .panic) := by
  unfold Src.tagReads tagsReadAt tagsDelineate tagsDecode tagsCount
  simp only [readTagsFromAt_model]
  by_cases h : inp.length < 2
  · simp [h]
  · simp only [h, if_false]
    cases rd16 inp 0 with
    | ok len => by_cases h2 : inp.length < len <;> simp [h2] <;> rfl
    | err => rfl
    | panic => rfl

theorem wr_mid (A Y v : Bytes) (pos : Nat) (h : pos = A.length) :
    Src.wr (A ++ Y) pos v = A ++ v ++ Y.drop v.length := by
  subst h
  simp [Src.wr, List.drop_append]

theorem strs_write (tag : List Bytes) (A Y : Bytes) (p : Nat) (hp : p = A.length) :
    tag.foldl (fun (st : Bytes × Nat) s =>
          let (output, p) := st
          let output := Src.wr output p (le16 s.length)
          let p := p + 2
          let output := Src.wr output p s
          let p := p + s.length
          (output, p)) (A ++ Y, p) = (A ++ encStrs tag ++ Y.drop (strsSize tag), p + strsSize tag) := by
  induction tag generalizing A Y p with
  | nil => simp [encStrs, strsSize]
  | cons s ss ih =>
    simp only [List.foldl_cons, strsSize]
    rw [wr_mid A Y _ p hp]
    rw [wr_mid (A ++ le16 s.length) (Y.drop (le16 s.length).length) s (p + 2) (by simp [hp])]
    have := ih (A ++ le16 s.length ++ s) (List.drop s.length (List.drop (le16 s.length).length Y)) (p + 2 + s.length)
      (by rw [List.length_append, List.length_append, le16_length, hp])
    rw [this]
    simp [encStrs, encStr, List.append_assoc, List.drop_drop]
    omega

/-- the invariant of the tag loop of `Tags::from_parts` (the fold is the loop body of `Src.tagsWrite`): header and slots written `A`,
slots to write `X`, tags written `B`, untouched rest `Y`; `p` stands at the end of `B`, `n` tags are done -/
theorem tags_write_loop (todo : TagsRec) (A X B Y : Bytes) (p n : Nat)
    (hA : A.length = 4 + 2 * n) (hX : X.length = 2 * todo.length) (hp : p = (A ++ X ++ B).length) :
    (todo.foldl (fun (st : Bytes × Nat × Nat) tag =>
      let (output, p, n) := st
      let output := Src.wr output (4 + 2 * n) (le16 p)
      let output := Src.wr output p (le16 tag.length)
      let p := p + 2
      let (output, p) := tag.foldl (fun (st : Bytes × Nat) s =>
          let (output, p) := st
          let output := Src.wr output p (le16 s.length)
          let p := p + 2
          let output := Src.wr output p s
          let p := p + s.length
          (output, p)) (output, p)
      (output, p, n + 1)) (A ++ X ++ B ++ Y, p, n)).1
      = A ++ encOffsets p todo ++ B ++ encTagsBody todo ++ Y.drop (tagsBodySize todo) := by
  induction todo generalizing A X B Y p n with
  | nil =>
    have : X = [] := List.eq_nil_of_length_eq_zero (by simpa using hX)
    simp [encOffsets, encTagsBody, tagsBodySize, this]
  | cons t rest ih =>
    match X, hX with
    | x0 :: x1 :: X', hX =>
      simp only [List.foldl_cons]
      have e1 : A ++ (x0 :: x1 :: X') ++ B ++ Y = A ++ ((x0 :: x1 :: X') ++ B ++ Y) := by simp
      rw [e1, wr_mid A _ (le16 p) (4 + 2 * n) hA.symm]
      have e2 : A ++ le16 p ++ List.drop (le16 p).length (x0 :: x1 :: X' ++ B ++ Y) = (A ++ le16 p ++ X' ++ B) ++ Y := by simp
      -- the slot written over two bytes of `X`: `p` still stands at the end of `B`
      have hp1 : p = (A ++ le16 p ++ X' ++ B).length := by
        rw [hp]; simp only [List.length_append, List.length_cons, le16_length]; omega
      rw [e2, wr_mid _ Y (le16 t.length) p hp1]
      simp only [List.length_cons] at hX
      rw [strs_write t _ _ (p + 2) (by rw [List.length_append, ← hp1, le16_length])]
      have e3 : A ++ le16 p ++ X' ++ B ++ le16 t.length ++ encStrs t ++ List.drop (strsSize t) (List.drop (le16 t.length).length Y)
          = A ++ le16 p ++ X' ++ (B ++ encTag t) ++ List.drop (strsSize t) (List.drop (le16 t.length).length Y) := by
        simp [encTag]
      rw [e3, show p + 2 + strsSize t = p + tagSize t by unfold tagSize; omega,
        ih (A ++ le16 p) X' (B ++ encTag t) _ (p + tagSize t) (n + 1)
          (by rw [List.length_append, hA, le16_length, Nat.mul_succ, Nat.add_assoc]) (by omega)
          (by rw [← List.append_assoc, List.length_append, ← hp1, encTag_length])]
      simp [encOffsets, encTagsBody, tagsBodySize, tagSize, List.append_assoc, List.drop_drop, Nat.add_assoc]

/-- the two write loops of `Tags::from_parts` (`Src.tagsWrite`) produce `encodeTags ts` followed by the untouched rest of any buffer
that holds the section -/
theorem tags_writer_from_source (ts : TagsRec) (buf : Bytes) (h : tagsSize ts ≤ buf.length) :
    Src.tagsWrite ts buf = encodeTags ts ++ buf.drop (tagsSize ts) := by
  unfold Src.tagsWrite
  simp only [tags_size_from_source]
  -- after the two header writes: header, the slots still to be written, no tag yet, the rest
  have e0 : Src.wr (Src.wr buf 0 (le16 (tagsSize ts))) 2 (le16 ts.length) =
      (le16 (tagsSize ts) ++ le16 ts.length) ++ (buf.drop 4).take (2 * ts.length) ++ [] ++ (buf.drop 4).drop (2 * ts.length) := by
    rw [show Src.wr buf 0 (le16 (tagsSize ts)) = _ from wr_mid [] buf _ 0 rfl, List.nil_append, wr_mid _ _ _ 2 rfl,
      List.append_nil, List.append_assoc _ (List.take _ _), List.take_append_drop, List.drop_drop]
    rfl
  -- the buffer holds the whole offset table
  have hX : ((buf.drop 4).take (2 * ts.length)).length = 2 * ts.length :=
    List.length_take_of_le (by rw [List.length_drop]; exact Nat.le_sub_of_add_le (by unfold tagsSize at h; omega))
  rw [e0, tags_write_loop ts _ _ [] _ _ 0 rfl hX (by rw [List.length_append, List.length_append, hX]; rfl)]
  simp [encodeTags, tagsSize, List.drop_drop, List.append_assoc]

/-- `Tags::from_parts` as a whole: the source's rejections, then its writer -/
theorem tags_from_parts_whole_from_source (ts : TagsRec) (buf : Bytes) :
    tagsFromParts ts buf =
      if Src.tagsRejects (Src.tagsSize ts) buf.length then .err else .ok (Src.tagsWrite ts buf) := by
  rw [tags_size_from_source, tagsFromParts_eq]
  simp only [Src.tagsRejects, Bool.or_eq_true, decide_eq_true_eq]
  by_cases h : tagsSize ts > 65535 ∨ buf.length < tagsSize ts
  · rw [if_pos h, if_pos h]
  · rw [if_neg h, if_neg h, tags_writer_from_source ts buf (Nat.le_of_not_gt fun c => h (Or.inr c))]

def flatW {α} (enc : α → Bytes) : List α → Bytes
  | [] => []
  | x :: xs => enc x ++ flatW enc xs

theorem seq_write {α} (enc : α → Bytes) (w : Nat) (xs : List α) (A Y : Bytes) (p : Nat)
    (hw : ∀ x ∈ xs, (enc x).length = w) (hp : p = A.length) :
    xs.foldl (fun (st : Bytes × Nat) x =>
        let (output, p) := st
        let output := Src.wr output (p) (enc x)
        let p := p + w
        (output, p)) (A ++ Y, p) = (A ++ flatW enc xs ++ Y.drop (w * xs.length), p + w * xs.length) := by
  induction xs generalizing A Y p with
  | nil => simp [flatW]
  | cons x xs ih =>
    have hx : (enc x).length = w := hw x (by simp)
    simp only [List.foldl_cons]
    rw [wr_mid A Y (enc x) p hp]
    rw [ih (A ++ enc x) (Y.drop (enc x).length) (p + w) (fun y hy => hw y (by simp [hy])) (by simp [hp, hx])]
    rw [List.drop_drop, hx, List.length_cons, Nat.mul_succ, Nat.add_comm (w * xs.length) w, flatW, List.append_assoc A,
      Nat.add_assoc]

theorem flatW_length {α} (enc : α → Bytes) (w : Nat) (xs : List α) (hw : ∀ x ∈ xs, (enc x).length = w) :
    (flatW enc xs).length = w * xs.length := by
  induction xs with
  | nil => rfl
  | cons x xs ih =>
    rw [flatW, List.length_append, hw x (by simp), ih fun y hy => hw y (by simp [hy]), List.length_cons, Nat.mul_succ, Nat.add_comm]

theorem flatW_id : ∀ xs : List Bytes, flatW (fun x => x) xs = flat32 xs
  | [] => rfl
  | x :: xs => by simp [flatW, flat32, flatW_id xs]
theorem flatW_kinds : ∀ ks : List Nat, flatW le16 ks = flatKinds ks
  | [] => rfl
  | k :: ks => by simp [flatW, flatKinds, flatW_kinds ks]

/-- behind a 32-byte header the array loops of `Filter::from_parts` (`Src.filterArraysWrite`) write the tail of `encodeFilterWith` and
leave the rest of the buffer alone -/
theorem filter_arrays_from_source (ids authors : List Bytes) (kinds : List Nat) (tagBytes A Y : Bytes)
    (hi : ∀ x ∈ ids, x.length = 32) (ha : ∀ x ∈ authors, x.length = 32) (hA : A.length = 32) :
    Src.filterArraysWrite ids authors kinds tagBytes (A ++ Y) =
      A ++ flat32 ids ++ flat32 authors ++ flatKinds kinds ++ tagBytes ++
        Y.drop (32 * ids.length + 32 * authors.length + 2 * kinds.length + tagBytes.length) := by
  unfold Src.filterArraysWrite
  have h1 := seq_write (fun x : Bytes => x) 32 ids A Y 32 hi hA.symm
  simp only [h1]
  have h2 := seq_write (fun x : Bytes => x) 32 authors (A ++ flatW (fun x => x) ids) (Y.drop (32 * ids.length)) (32 + 32 * ids.length) ha
    (by rw [List.length_append, hA, flatW_length _ 32 ids hi])
  simp only [h2]
  have h3 := seq_write le16 2 kinds (A ++ flatW (fun x => x) ids ++ flatW (fun x => x) authors) ((Y.drop (32 * ids.length)).drop (32 * authors.length))
    (32 + 32 * ids.length + 32 * authors.length) (fun _ _ => rfl)
    (by rw [List.length_append, List.length_append, hA, flatW_length _ 32 ids hi, flatW_length _ 32 authors ha])
  simp only [h3]
  rw [wr_mid _ _ tagBytes _ (by
    rw [List.length_append, List.length_append, List.length_append, hA, flatW_length _ 32 ids hi, flatW_length _ 32 authors ha,
      flatW_length le16 2 kinds fun _ _ => rfl])]
  simp only [flatW_id, flatW_kinds, List.drop_drop]

/-- `Event::from_parts` refuses exactly what the source's tests refuse (in whatever order: every refusal is an error) -/
theorem event_rejections_from_source (id pk sig : Bytes) (kind t : Nat) (tagBytes content buf : Bytes) :
    eventFromParts id pk sig kind t tagBytes content buf =
      if Src.eventRejects (Src.eventSize tagBytes.length content.length) buf.length then .err
      else .ok (Src.encodeEventWith id pk sig kind t tagBytes content ++ buf.drop (Src.eventSize tagBytes.length content.length)) := by
  rw [event_writer_from_source, event_size_from_source]
  simp only [eventFromParts, Src.eventRejects, ite_ite_same, Bool.or_eq_true, decide_eq_true_eq]

/-- `Filter::from_parts` refuses exactly what the source's tests refuse: counts beyond `u16::MAX`, a size beyond `u32::MAX`, a short buffer -/
theorem filter_rejections_from_source (ids authors : List Bytes) (kinds : List Nat) (tagBytes : Bytes) (since «until» limit : Nat) (buf : Bytes) :
    filterFromParts ids authors kinds tagBytes since «until» limit buf =
      if Src.filterRejects ids.length authors.length kinds.length (filterSize ids.length authors.length kinds.length tagBytes.length) buf.length
      then .err
      else .ok (encodeFilterWith ids authors kinds tagBytes since «until» limit ++
                buf.drop (filterSize ids.length authors.length kinds.length tagBytes.length)) := by
  simp only [filterFromParts, Src.filterRejects, ite_ite_same, Bool.or_eq_true, decide_eq_true_eq, or_assoc]

/-- behind the header the source writes, its array loops complete `encodeFilterWith` and leave the rest alone -/
theorem filter_writer_from_source (ids authors : List Bytes) (kinds : List Nat) (tagBytes Y : Bytes) (since «until» limit : Nat)
    (hi : ∀ x ∈ ids, x.length = 32) (ha : ∀ x ∈ authors, x.length = 32) :
    Src.filterArraysWrite ids authors kinds tagBytes
        (Src.filterHeader (filterSize ids.length authors.length kinds.length tagBytes.length) ids.length authors.length kinds.length
          (some limit) (some since) (some «until») ++ Y) =
      encodeFilterWith ids authors kinds tagBytes since «until» limit ++
        Y.drop (32 * ids.length + 32 * authors.length + 2 * kinds.length + tagBytes.length) := by
  rw [filter_arrays_from_source ids authors kinds tagBytes _ Y hi ha (by simp [Src.filterHeader]),
    filter_header_from_source ids authors kinds tagBytes since «until» limit]
  simp [List.append_assoc]

end Pocket
