import Pocket.Lemmas.Total
import Pocket.Lemmas.Layout
/- A successful parse yields a well-formed binary value (C01, C02, C03). -/
namespace Pocket

theorem tagsFromJson_all (inp buf : Bytes) :
    (tagsFromJson inp buf).All fun r => r.1 ≤ inp.length ∧ ∃ ts, r.2.2.take r.2.1 = encodeTags ts ∧ tagsSize ts ≤ 65535 := by
  unfold tagsFromJson
  outcome_step readTagsArray_all inp _ with ⟨r, tb⟩ ⟨ts, rfl, hfit⟩
  exact ⟨Nat.sub_le _ _, ts, List.take_left' rfl, hfit⟩

/-- what holds of everything `parse_json_event` has stored so far -/
structure EvInv (cap : Nat) (st : EvSt) : Prop where
  id : ∀ v, st.id = some v → v.length = 32
  pk : ∀ v, st.pk = some v → v.length = 32
  sig : ∀ v, st.sig = some v → v.length = 64
  kind : ∀ v, st.kind = some v → v < 65536
  t : ∀ v, st.t = some v → v < 18446744073709551616
  tags : ∀ tb, st.tags = some tb → ∃ ts, tb = encodeTags ts ∧ tagsSize ts ≤ 65535
  content : ∀ c, st.content = some c → ∃ tb, st.tags = some tb ∧
    144 + tb.length + 4 + c.length ≤ 4294967295 ∧ 144 + tb.length + 4 + c.length ≤ cap

theorem evMember_all (st : EvSt) (q : Bytes) (cap : Nat) (hi : EvInv cap st) :
    (evMember st q cap).All fun r => EvInv cap r.1 := by
  unfold evMember
  outcome_step verifyChar_all 34 q with field -
  refine .both ?_ <| .both ?_ <| .both ?_ <| .both ?_ <| .both ?_ <| .both ?_ <| .both ?_ ?_
  -- the seven known members: refused if seen before, then the colon
  all_goals try (refine .ite (fun _ => trivial) fun hs => ?_; outcome_step eatColon_all _ with r -)
  · outcome_step readHexField_all 32 r with ⟨v, r'⟩ hv
    exact { hi with id := fun _ hw => by cases hw; exact hv }
  · outcome_step readHexField_all 64 r with ⟨v, r'⟩ hv
    exact { hi with sig := fun _ hw => by cases hw; exact hv }
  · outcome_step readKind_all r with ⟨v, r'⟩ hv
    exact { hi with kind := fun _ hw => by cases hw; exact hv }
  · -- no tags yet, so no content yet
    have hc : st.content = none := by
      cases hc : st.content with
      | none => rfl
      | some c => obtain ⟨tb, htb, _⟩ := hi.content c hc; simp [htb] at hs
    outcome_step readTagsArray_all r _ with ⟨r', tb⟩ htb
    split
    · outcome_step readContent_all _ cap _ with ⟨_, c⟩ hy
      exact { hi with tags := fun _ hw => by cases hw; exact htb, content := fun _ hw => by cases hw; exact ⟨_, rfl, hy⟩ }
    · exact { hi with tags := fun _ hw => by cases hw; exact htb, content := fun _ hw => by simp [hc] at hw }
  · outcome_step readHexField_all 32 r with ⟨v, r'⟩ hv
    exact { hi with pk := fun _ hw => by cases hw; exact hv }
  · split
    · outcome_step verifyChar_all 34 r with r1 -
      outcome_step burnString_all r1 with r' -
      -- only `contentStart` changed, which the invariant does not mention
      exact { hi with }
    · next tb htb =>
      outcome_step readContent_all r cap _ with ⟨r', c⟩ hy
      exact { hi with content := fun _ hw => by cases hw; exact ⟨tb, htb, hy⟩ }
  · outcome_step readU64_all r with ⟨v, r'⟩ hv
    exact { hi with t := fun _ hw => by cases hw; exact hv }
  · outcome_step burnKeyValue_all q 0 with r' -
    exact hi

theorem evLoop_all (fuel : Nat) (st : EvSt) (inp : Bytes) (cap : Nat) (hi : EvInv cap st) :
    (evLoop fuel st inp cap).All fun r => EvInv cap r.1 := by
  induction fuel generalizing st inp with
  | zero => trivial
  | succ fuel ih =>
    unfold evLoop
    outcome_step evMember_all st _ cap hi with ⟨st', r⟩ h1
    outcome_step nextObjectField_all r with ⟨_ | _, r'⟩ -
    · exact ih _ _ h1
    · exact h1

/-- `Event::from_json` does not panic, and what it accepts is the encoding of an event whose parts fit every field -/
theorem parseEvent_all (inp buf : Bytes) :
    (parseEvent inp buf).All fun r => ∃ e, EventSized e ∧ r.2.2 = encodeEvent e ++ buf.drop r.2.1 ∧
      r.2.1 = (encodeEvent e).length ∧ r.2.1 ≤ buf.length ∧ r.1 ≤ inp.length := by
  unfold parseEvent
  refine .both trivial <| .both trivial ?_
  outcome_step verifyChar_all 123 _ with r -
  outcome_step evLoop_all _ {} r buf.length ⟨nofun, nofun, nofun, nofun, nofun, nofun, nofun⟩ with ⟨st, rest⟩ hinv
  split
  · next id pk sig kind t tb cc e1 e2 e3 e4 e5 e6 e7 =>
    -- the components of the result first: `rfl` through `r.2.2`, `r.2.1` of the triple is costly to check
    dsimp only [Outcome.All]
    obtain ⟨ts, rfl, hfit⟩ := hinv.tags tb e6
    obtain ⟨tb', htb', hcb, hcap⟩ := hinv.content cc e7
    cases e6.symm.trans htb'
    rw [encodeTags_length] at hcb hcap
    have hl := encodeEventWith_length id pk sig kind t (encodeTags ts) cc
      (hinv.id id e1) (hinv.pk pk e2) (hinv.sig sig e3)
    refine ⟨⟨id, pk, sig, kind, t, ts, cc⟩, ⟨hinv.id id e1, hinv.pk pk e2, hinv.sig sig e3, hinv.kind kind e4,
      hinv.t t e5, hfit, hcb⟩, rfl, rfl, ?_, Nat.sub_le _ _⟩
    rw [hl, encodeTags_length]; exact hcap
  · trivial

theorem parseEvent_wf (inp buf : Bytes) (c n : Nat) (out : Bytes)
    (h : parseEvent inp buf = .ok (c, n, out)) :
    ∃ e, EventSized e ∧ out = encodeEvent e ++ buf.drop n ∧ n = (encodeEvent e).length ∧
      n ≤ buf.length ∧ c ≤ inp.length :=
  (parseEvent_all inp buf).of_ok h

end Pocket
