import Pocket.Src.Keys
/- The six query-index keys and the ranges read over them as the source has them (`Pocket/Src/Keys.lean`, translated from lmdb/mod.rs on
every check run) against the model's byte keys (`Model/Keys.lean`). -/
namespace Pocket

/-- the six key builders `key_*_index` of `lmdb/mod.rs` produce exactly the model's byte keys -/
theorem keys_from_source (author value id : Bytes) (kind letter t : Nat) :
    Src.keyCi t id = keyCi t id ∧ Src.keyAc author t id = keyAc author t id ∧ Src.keyAkc author kind t id = keyAkc author kind t id ∧
    Src.keyTc letter value t id = keyTc letter value t id ∧ Src.keyAtc author letter value t id = keyAtc author letter value t id ∧
    Src.keyKtc kind letter value t id = keyKtc kind letter value t id := by
  simp [Src.keyCi, Src.keyAc, Src.keyAkc, Src.keyTc, Src.keyAtc, Src.keyKtc, keyCi, keyAc, keyAkc, keyTc, keyAtc, keyKtc, revTime, pad182,
    List.append_assoc]

/-- each `*_iter` of `lmdb/mod.rs` reads from the key at `until` with the all-zero id to the key at `since` with the all-ones id, both
included: the bounds `index_range_bounds`, `…_index_scan` and `tag_index_scan` are stated for -/
theorem iter_bounds_from_source (author value : Bytes) (kind letter since «until» : Nat) :
    (Src.ciIterLo since «until» = keyCi «until» zeros32 ∧ Src.ciIterHi since «until» = keyCi since ffs32 ∧ Src.ciIterInclusive = (true, true)) ∧
    (Src.acIterLo author since «until» = keyAc author «until» zeros32 ∧ Src.acIterHi author since «until» = keyAc author since ffs32 ∧
      Src.acIterInclusive = (true, true)) ∧
    (Src.akcIterLo author kind since «until» = keyAkc author kind «until» zeros32 ∧ Src.akcIterHi author kind since «until» = keyAkc author kind since ffs32 ∧
      Src.akcIterInclusive = (true, true)) ∧
    (Src.tcIterLo letter value since «until» = keyTc letter value «until» zeros32 ∧ Src.tcIterHi letter value since «until» = keyTc letter value since ffs32 ∧
      Src.tcIterInclusive = (true, true)) ∧
    (Src.atcIterLo author letter value since «until» = keyAtc author letter value «until» zeros32 ∧
      Src.atcIterHi author letter value since «until» = keyAtc author letter value since ffs32 ∧ Src.atcIterInclusive = (true, true)) ∧
    (Src.ktcIterLo kind letter value since «until» = keyKtc kind letter value «until» zeros32 ∧
      Src.ktcIterHi kind letter value since «until» = keyKtc kind letter value since ffs32 ∧ Src.ktcIterInclusive = (true, true)) := by
  -- each translated bound is, by `rfl`, the translated key builder with a constant id: `keys_from_source` applies
  have k := fun t id => keys_from_source author value id kind letter t
  exact ⟨⟨(k _ _).1, (k _ _).1, rfl⟩, ⟨(k _ _).2.1, (k _ _).2.1, rfl⟩, ⟨(k _ _).2.2.1, (k _ _).2.2.1, rfl⟩,
    ⟨(k _ _).2.2.2.1, (k _ _).2.2.2.1, rfl⟩, ⟨(k _ _).2.2.2.2.1, (k _ _).2.2.2.2.1, rfl⟩,
    ⟨(k _ _).2.2.2.2.2, (k _ _).2.2.2.2.2, rfl⟩⟩

/-- a walk that emits fixed entries and entries per tag `[l] :: v :: _` lists `eventKeys` if both are the model's, in whatever order -/
theorem mem_walk (e : EventRec) (fixed : List (String × Bytes)) (row : Nat → Bytes → List (String × Bytes)) (tk : String × Bytes)
    (hfix : fixed.Perm [("ci", keyCi e.createdAt e.id), ("ac", keyAc e.pubkey e.createdAt e.id),
      ("akc", keyAkc e.pubkey e.kind e.createdAt e.id)])
    (hrow : ∀ l v, (row l v).Perm [("tc", keyTc l v e.createdAt e.id), ("atc", keyAtc e.pubkey l v e.createdAt e.id),
      ("ktc", keyKtc e.kind l v e.createdAt e.id)]) :
    tk ∈ fixed ++ (e.tags.filterMap fun t => match t with | [l] :: v :: _ => some (row l v) | _ => none).flatten ↔
      tk ∈ eventKeys e := by
  unfold eventKeys
  rw [List.mem_append, List.mem_append, hfix.mem_iff]
  apply or_congr Iff.rfl
  simp only [List.mem_flatten, List.mem_filterMap]
  constructor
  · rintro ⟨ys, ⟨t, ht, hf⟩, hx⟩
    split at hf
    · cases hf; exact ⟨_, ⟨_, ht, rfl⟩, (hrow _ _).mem_iff.mp hx⟩
    · cases hf
  · rintro ⟨ys, ⟨t, ht, hf⟩, hx⟩
    split at hf
    · cases hf; exact ⟨_, ⟨_, ht, rfl⟩, (hrow _ _).mem_iff.mpr hx⟩
    · cases hf

/-- what `Lmdb::index` puts and what `Lmdb::deindex` deletes for an event (fixed entries, then per tag with "a name, of one byte, and
a value" three entries) are the same (table, key) pairs: those `eventKeys` lists and the key dump `KYS` is compared with -/
theorem index_walk_from_source (e : EventRec) (tk : String × Bytes) :
    (tk ∈ Src.indexKeys e ↔ tk ∈ eventKeys e) ∧ (tk ∈ Src.deindexKeys e ↔ tk ∈ eventKeys e) := by
  have k := fun (value : Bytes) (letter : Nat) => keys_from_source e.pubkey value e.id e.kind letter e.createdAt
  constructor
  · refine mem_walk e _ (fun l v => [("tc", Src.keyTc l v e.createdAt e.id), ("atc", Src.keyAtc e.pubkey l v e.createdAt e.id),
      ("ktc", Src.keyKtc e.kind l v e.createdAt e.id)]) tk ?_ (fun l v => ?_)
    · rw [(k [] 0).1, (k [] 0).2.1, (k [] 0).2.2.1]; exact .cons _ (.swap _ _ _)
    · rw [(k v l).2.2.2.1, (k v l).2.2.2.2.1, (k v l).2.2.2.2.2]
  · refine mem_walk e _ (fun l v => [("atc", Src.keyAtc e.pubkey l v e.createdAt e.id), ("ktc", Src.keyKtc e.kind l v e.createdAt e.id),
      ("tc", Src.keyTc l v e.createdAt e.id)]) tk ?_ (fun l v => ?_)
    · rw [(k [] 0).1, (k [] 0).2.1, (k [] 0).2.2.1]; exact .swap _ _ _
    · rw [(k v l).2.2.2.1, (k v l).2.2.2.2.1, (k v l).2.2.2.2.2]; exact (List.Perm.cons _ (.swap _ _ _)).trans (.swap _ _ _)

end Pocket
