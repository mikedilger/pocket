import Pocket.Model.Hll
import Pocket.Lemmas.ListAux
import Pocket.Spec.Sketch
/- Registers under register-wise maximum (C20).  An insertion is a merge with a sketch that is zero but for one register, so what
insertions satisfy comes from `hllMerge` being commutative, associative and idempotent on sketches of one length. -/
namespace Pocket

theorem hllMerge_length (a b : Regs) : (hllMerge a b).length = a.length := by
  induction a generalizing b with
  | nil => cases b <;> simp [hllMerge]
  | cons x a ih => cases b <;> simp [hllMerge, ih]

theorem hllMerge_comm (a b : Regs) (h : a.length = b.length) : hllMerge a b = hllMerge b a := by
  induction a, b, h using eqLen_induction with
  | nil => rfl
  | cons x y a b _ ih => simp only [hllMerge, ite_gt_eq_max, ih, Nat.max_comm]

theorem hllMerge_assoc (a b c : Regs) (h1 : a.length = b.length) (h2 : b.length = c.length) :
    hllMerge (hllMerge a b) c = hllMerge a (hllMerge b c) := by
  induction a, b, h1 using eqLen_induction generalizing c with
  | nil => cases c <;> rfl
  | cons x y a b _ ih =>
    cases c with
    | nil => simp at h2
    | cons z c => simp only [hllMerge, ite_gt_eq_max, ih c (by simpa using h2), Nat.max_assoc]

theorem hllMerge_idem (a : Regs) : hllMerge a a = a := by
  induction a with
  | nil => simp [hllMerge]
  | cons x a ih => simp [hllMerge, ih]

def single (n i v : Nat) : Regs := (List.replicate n 0).set i v

theorem single_length (n i v : Nat) : (single n i v).length = n := by simp [single]

theorem hllMerge_zeros (r : Regs) : hllMerge r (List.replicate r.length 0) = r := by
  induction r with
  | nil => simp [hllMerge]
  | cons x r ih => simp [List.replicate_succ, hllMerge, ih]

theorem setReg_eq_merge (r : Regs) (i v : Nat) : setReg r i v = hllMerge r (single r.length i v) := by
  induction r generalizing i with
  | nil => simp [setReg, single, hllMerge]
  | cons x r ih =>
    cases i with
    | zero => simp [setReg, single, hllMerge, hllMerge_zeros, List.replicate_succ]
    | succ i => simp [setReg, single, hllMerge, List.replicate_succ, ih]

theorem setReg_length (r : Regs) (i v : Nat) : (setReg r i v).length = r.length := by
  rw [setReg_eq_merge, hllMerge_length]

theorem step_eq_merge (r : Regs) (x : Nat × Nat) :
    step r x = hllMerge r (single r.length x.1 x.2) := setReg_eq_merge r x.1 x.2

theorem step_length (r : Regs) (x : Nat × Nat) : (step r x).length = r.length := setReg_length r x.1 x.2

theorem sketchFrom_cons (r : Regs) (x : Nat × Nat) (l : List (Nat × Nat)) : sketchFrom r (x :: l) = sketchFrom (step r x) l := rfl

theorem sketchFrom_length (r : Regs) (l : List (Nat × Nat)) : (sketchFrom r l).length = r.length := by
  induction l generalizing r with
  | nil => rfl
  | cons x l ih => rw [sketchFrom_cons, ih, step_length]

theorem step_merge (a b : Regs) (x : Nat × Nat) (h : a.length = b.length) :
    step (hllMerge a b) x = hllMerge a (step b x) := by
  rw [step_eq_merge, step_eq_merge, hllMerge_length, h,
    hllMerge_assoc a b _ h (by rw [single_length])]

theorem sketchFrom_merge (a b : Regs) (l : List (Nat × Nat)) (h : a.length = b.length) :
    sketchFrom (hllMerge a b) l = hllMerge a (sketchFrom b l) := by
  induction l generalizing b with
  | nil => rfl
  | cons x l ih => rw [sketchFrom_cons, sketchFrom_cons, step_merge a b x h, ih _ (by rw [step_length, h])]

theorem sketchFrom_eq_merge (r : Regs) (l : List (Nat × Nat)) :
    sketchFrom r l = hllMerge r (sketchFrom (List.replicate r.length 0) l) := by
  rw [← sketchFrom_merge _ _ _ List.length_replicate.symm, hllMerge_zeros]

theorem step_comm (r : Regs) (x y : Nat × Nat) : step (step r x) y = step (step r y) x := by
  rw [step_eq_merge (step r x), step_eq_merge (step r y), step_length, step_length, step_eq_merge r x, step_eq_merge r y,
    hllMerge_assoc _ _ _ (by rw [single_length]) (by rw [single_length, single_length]),
    hllMerge_assoc _ _ _ (by rw [single_length]) (by rw [single_length, single_length]),
    hllMerge_comm (single _ x.1 x.2) (single _ y.1 y.2) (by rw [single_length, single_length])]

theorem step_idem (r : Regs) (x : Nat × Nat) : step (step r x) x = step r x := by
  rw [step_eq_merge (step r x), step_length, step_eq_merge r x,
    hllMerge_assoc _ _ _ (by rw [single_length]) rfl, hllMerge_idem]

theorem sketchFrom_absorb (r : Regs) (l : List (Nat × Nat)) (x : Nat × Nat) (hx : x ∈ l) :
    step (sketchFrom r l) x = sketchFrom r l := by
  -- insertions commute, so `x` may be inserted last
  have p : l.Perm (l.erase x ++ [x]) := (List.perm_cons_erase hx).trans (List.perm_append_singleton x _).symm
  rw [sketchFrom, p.foldl_eq' (fun a _ b _ z => step_comm z a b), List.foldl_append]
  exact step_idem _ x

theorem sketchFrom_append (r : Regs) (A B : List (Nat × Nat)) : sketchFrom r (A ++ B) = sketchFrom (sketchFrom r A) B :=
  List.foldl_append

theorem sketchFrom_absorb_list (r : Regs) (A B : List (Nat × Nat)) (h : ∀ x ∈ B, x ∈ A) :
    sketchFrom r (A ++ B) = sketchFrom r A := by
  rw [sketchFrom_append]
  induction B with
  | nil => rfl
  | cons x B ih =>
    rw [sketchFrom_cons, sketchFrom_absorb r A x (h x List.mem_cons_self)]
    exact ih fun y hy => h y (List.mem_cons_of_mem x hy)

/-- each list absorbs the other, and the two concatenations are permutations of one another -/
theorem sketchFrom_set_ext (r : Regs) (A B : List (Nat × Nat)) (h : ∀ x, x ∈ A ↔ x ∈ B) : sketchFrom r A = sketchFrom r B := by
  rw [← sketchFrom_absorb_list r A B fun x hx => (h x).2 hx, ← sketchFrom_absorb_list r B A fun x hx => (h x).1 hx]
  exact List.perm_append_comm.foldl_eq' (fun a _ b _ z => step_comm z a b) r

end Pocket
