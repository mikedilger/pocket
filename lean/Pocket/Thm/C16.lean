import Pocket.Spec.AbsStore
import Pocket.Lemmas.StoreRead
import Pocket.Spec.StoreInv
/-
C16 — reopen and rebuild preserve everything observable.
Reopen is the identity of the model; rebuild re-sorts the index by id and gives every event a new offset, so the events are
kept as a multiset.  NOT proved: that `find_events` returns the same events after a rebuild, and that the backup copies
exist (the check compares lookups and queries before and after).
-/
namespace Pocket.C16
open Pocket

/-- closing and reopening changes nothing (map length and end marker are re-derived from the file; the tables are LMDB's) -/
theorem reopen_preserves (s : Store) : step s .reopen = s := rfl

/-- rebuild keeps both marker tables and the extra tables -/
theorem rebuild_preserves_markers (s : Store) :
    (rebuild s).db.delIds = s.db.delIds ∧ (rebuild s).db.delAddrs = s.db.delAddrs ∧
    (rebuild s).db.extra = s.db.extra := ⟨rfl, rfl, rfl⟩

/-- rebuild keeps exactly the retrievable events (as a multiset) -/
theorem rebuild_preserves_events (s : Store) :
    ((rebuild s).db.live.map (·.e)).Perm (s.db.live.map (·.e)) :=
  rebuild_events_perm s

/-- every lookup by id gives the same answer after rebuild -/
theorem rebuild_getById (s : Store) (hi : Inv s) (id : Bytes) : getById (rebuild s) id = getById s id := by
  apply Option.ext
  intro ev
  rw [getById_eq_some_iff _ (Inv_rebuild s hi), getById_eq_some_iff _ hi, (rebuild_preserves_events s).mem_iff]

/-- rebuild retains no bytes of unreferenced events: the new log is exactly the retrievable events and ends within the header
plus their sizes, each padded by less than 8 bytes -/
theorem rebuild_compacts (s : Store) :
    (rebuild s).log = (rebuild s).db.live ∧
    (rebuild s).end ≤ 8 + (s.db.live.map (fun x => eventLen x.e + 7)).sum := by
  refine ⟨rfl, ?_⟩
  have := relog_end_le (s.db.live.foldr insertById []) 8
  have hperm : ((s.db.live.foldr insertById []).map (fun x => eventLen x.e + 7)).sum =
      (s.db.live.map (fun x => eventLen x.e + 7)).sum :=
    ((sortById_perm s.db.live).map _).sum_nat
  unfold rebuild
  dsimp only
  omega

/-- the invariant holds again after rebuild -/
theorem rebuild_inv (s : Store) (hi : Inv s) : Inv (rebuild s) := Inv_rebuild s hi

/-- C16 on the abstract store: rebuilding keeps the retrievable events, their number, and both marker tables -/
theorem spec_rebuild_preserves (a : Abs) :
    (∀ x, x ∈ (absRebuild a).live ↔ x ∈ a.live) ∧ (absRebuild a).live.length = a.live.length ∧
    (absRebuild a).delIds = a.delIds ∧ (absRebuild a).delAddrs = a.delAddrs :=
  ⟨fun _ => (sortByIdE_perm a.live).mem_iff, (sortByIdE_perm a.live).length_eq, rfl, rfl⟩

end Pocket.C16
