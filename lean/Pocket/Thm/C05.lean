import Pocket.Lemmas.FromSourcePreds
import Pocket.Lemmas.FromSourceKeys
import Pocket.Lemmas.KeysTag
import Pocket.Lemmas.FromSourceConsts
import Pocket.Lemmas.FindNewest
import Pocket.Thm.C06
import Pocket.Thm.C09
import Pocket.Lemmas.Keys
import Pocket.Spec.Match
import Pocket.Spec.IndexKeys
/-
C05 — `find_events` returns only retrievable, matching, screened-in events, newest first, without duplicates, at most
`limit`; the redacted flag and the scraping refusal follow the stated rules.

For whichever of the seven plans serves the filter (moving `since` and early range exits included).  Strongest:
`answer_characterised` = `findEvents_sound` (any index and filter) + `newest_under_limit` (reachable states, NIP-01 filters).
Not proved: that the redacted flag is set whenever a matching event was withheld (`redacted_sound` is the other direction).

The byte keys are prefix, big-endian `u64::MAX - created_at`, id; the `*_index_scan` theorems say that a bytewise-ordered table
read between the bounds `*_iter` builds returns the model's scan.  Trusted about LMDB: that it iterates a range in bytewise key
order; that the real tables hold exactly these keys is compared on every step (`KYS`, a `verif` hook).  The scan theorems assume
`KeyWf` of every stored event, which nothing here derives for reachable states.  The `*_from_source` theorems tie padding, key
builders, iterator bounds and scrape gate to the source text of every check run (`Pocket/Src/`, from `lib/srcfacts.py`).
-/
namespace Pocket.C05
open Pocket

/-- every returned event is retrievable, matches the filter and passed the screen; no duplicates, newest first, at most `limit` -/
theorem findEvents_sound (live : List SEv) (f : FilterRec) (allow : Bool) (l secs now : Nat)
    (scr : EventRec → Screen) (out : List SEv) (red : Bool)
    (h : findEvents live f allow l secs now scr = .ok out red) :
    (∀ x ∈ out, x ∈ live ∧ eventMatches f x.e = true ∧ scr x.e = .match) ∧
    out.Pairwise (fun a b => a.e.id ≠ b.e.id) ∧
    out.Pairwise (fun a b => a.e.createdAt ≥ b.e.createdAt) ∧
    out.length ≤ f.limit := Pocket.findEvents_sound live f allow l secs now scr out red h

/-- every returned event satisfies the NIP-01 predicate, if the filter's tag constraints are named -/
theorem findEvents_nip01 (live : List SEv) (f : FilterRec) (hn : C06.TagsNamed f) (allow : Bool)
    (l secs now : Nat) (scr : EventRec → Screen) (out : List SEv) (red : Bool)
    (h : findEvents live f allow l secs now scr = .ok out red) :
    ∀ x ∈ out, C06.matchesSpec f x.e :=
  fun x hx => (C06.eventMatches_iff_spec f x.e hn).mp ((findEvents_sound live f allow l secs now scr out red h).1 x hx).2.1

/-- the redacted flag is set only if some retrievable matching event was screened as redacted -/
theorem redacted_sound (live : List SEv) (f : FilterRec) (allow : Bool) (l secs now : Nat)
    (scr : EventRec → Screen) (out : List SEv)
    (h : findEvents live f allow l secs now scr = .ok out true) :
    ∃ x ∈ live, eventMatches f x.e = true ∧ scr x.e = .redacted := by
  obtain ⟨st, hst, _, hr⟩ := findEvents_ok live f allow l secs now scr out true h
  exact (Good_findState live f allow l secs now scr st hst).red hr.symm

/-- newest-k under a binding limit: a qualifying event is missing only from an answer of exactly `limit` events, none older than
it (among events of equal time either may be chosen) -/
theorem newest_under_limit (ops : List Op) (f : FilterRec) (hsl : SingleLetter f) (allow : Bool)
    (l secs now : Nat) (scr : EventRec → Screen) (out : List SEv) (red : Bool)
    (h : findEvents (run {} ops).db.live f allow l secs now scr = .ok out red)
    (x : SEv) (hx : x ∈ (run {} ops).db.live) (hm : eventMatches f x.e = true) (hs : scr x.e = .match)
    (hnot : x ∉ out) :
    out.length = f.limit ∧ ∀ y ∈ out, x.e.createdAt ≤ y.e.createdAt :=
  findEvents_newest _ f allow l secs now scr out red (Inv_run {} ops Inv_init).liveIds
    (C09.one_per_address ops) hsl h x hx hm hs hnot

/-- the whole of C05 for an answered query: `findEvents_sound` and `newest_under_limit` together -/
theorem answer_characterised (ops : List Op) (f : FilterRec) (hsl : SingleLetter f) (allow : Bool)
    (l secs now : Nat) (scr : EventRec → Screen) (out : List SEv) (red : Bool)
    (h : findEvents (run {} ops).db.live f allow l secs now scr = .ok out red) :
    (∀ x ∈ out, x ∈ (run {} ops).db.live ∧ eventMatches f x.e = true ∧ scr x.e = .match) ∧
    out.Pairwise (fun a b => a.e.id ≠ b.e.id) ∧
    out.Pairwise (fun a b => a.e.createdAt ≥ b.e.createdAt) ∧
    out.length ≤ f.limit ∧
    (∀ x ∈ (run {} ops).db.live, eventMatches f x.e = true → scr x.e = .match → x ∉ out →
      out.length = f.limit ∧ ∀ y ∈ out, x.e.createdAt ≤ y.e.createdAt) := by
  obtain ⟨s1, s2, s3, s4⟩ := findEvents_sound _ f allow l secs now scr out red h
  exact ⟨s1, s2, s3, s4, fun x hx hm hs hnot =>
    newest_under_limit ops f hsl allow l secs now scr out red h x hx hm hs hnot⟩

/-- exactly the qualifying events, in a reachable store with fewer retrievable events than `limit` -/
theorem findEvents_exact (ops : List Op) (f : FilterRec) (hsl : SingleLetter f) (allow : Bool)
    (l secs now : Nat) (scr : EventRec → Screen) (out : List SEv) (red : Bool)
    (hnl : (run {} ops).db.live.length < f.limit)
    (h : findEvents (run {} ops).db.live f allow l secs now scr = .ok out red) (x : SEv) :
    x ∈ out ↔ (x ∈ (run {} ops).db.live ∧ eventMatches f x.e = true ∧ scr x.e = .match) :=
  findEvents_exact_on_index _ f allow l secs now scr out red (Inv_run {} ops Inv_init).liveIds
    (C09.one_per_address ops) hsl h hnl x

/-- with fewer retrievable events than either `limit`, two filters that match the same events return the same set, whichever
plans they select -/
theorem plan_independent (ops : List Op) (f g : FilterRec) (hf : SingleLetter f) (hg : SingleLetter g)
    (allow : Bool) (l secs now : Nat) (scr : EventRec → Screen) (o1 o2 : List SEv) (r1 r2 : Bool)
    (hsame : ∀ x ∈ (run {} ops).db.live, eventMatches f x.e = eventMatches g x.e)
    (h1 : (run {} ops).db.live.length < f.limit) (h2 : (run {} ops).db.live.length < g.limit)
    (e1 : findEvents (run {} ops).db.live f allow l secs now scr = .ok o1 r1)
    (e2 : findEvents (run {} ops).db.live g allow l secs now scr = .ok o2 r2) (x : SEv) :
    x ∈ o1 ↔ x ∈ o2 := by
  rw [findEvents_exact ops f hf allow l secs now scr o1 r1 h1 e1 x,
    findEvents_exact ops g hg allow l secs now scr o2 r2 h2 e2 x]
  exact and_congr_right fun hx => by rw [hsame x hx]

/-- refused as scraping iff the filter names no ids, authors or tags and no allowance of the caller covers it (the time span
saturates at 0) -/
theorem scrape_gate (live : List SEv) (f : FilterRec) (allow : Bool) (l secs now : Nat)
    (scr : EventRec → Screen) :
    findEvents live f allow l secs now scr = .scraper ↔
      (f.ids = [] ∧ f.authors = [] ∧ f.tags = [] ∧ allow = false ∧ ¬ f.limit ≤ l ∧
        ¬ (min f.until now - f.since < secs)) := by
  rw [findEvents_eq_scraper, findState_eq_none, scrapeAllowed, ite_lt_eq_min]
  simp only [Bool.or_eq_false_iff, decide_eq_false_iff_not, and_assoc]

/-- a query never panics -/
theorem findEvents_total (live : List SEv) (f : FilterRec) (allow : Bool) (l secs now : Nat)
    (scr : EventRec → Screen) :
    (∃ out red, findEvents live f allow l secs now scr = .ok out red) ∨
      findEvents live f allow l secs now scr = .scraper := by
  unfold findEvents
  split
  · exact Or.inl ⟨_, _, rfl⟩
  · exact Or.inr rfl

def answerIds : FindReply → Option (List Bytes)
  | .ok out _ => some (out.map (·.e.id))
  | .scraper => none

/-- non-vacuity of `newest_under_limit`: two events, limit 1; the newer is returned, the older is the one missing -/
example :
    answerIds (findEvents (run {} [
        .store { id := [1], pubkey := [7], kind := 1, createdAt := 10, tags := [], content := [], sig := [] },
        .store { id := [2], pubkey := [7], kind := 1, createdAt := 20, tags := [], content := [], sig := [] }]).db.live
      { ids := [], authors := [[7]], kinds := [], tags := [], since := 0, «until» := 100, limit := 1 }
      false 0 0 0 (fun _ => .match)) = some [[2]] := by
  decide +kernel

/-- keys with one prefix compare bytewise as (newest first, then ascending id) -/
theorem index_key_order (P : Bytes) (t1 t2 : Nat) (id1 id2 : Bytes) (h1 : t1 ≤ U64MAX) (h2 : t2 ≤ U64MAX) :
    bytesLt (P ++ (revTime t1 ++ id1)) (P ++ (revTime t2 ++ id2)) =
      (decide (t1 > t2) || (t1 == t2 && bytesLt id1 id2)) := key_order P t1 t2 id1 id2 h1 h2

/-- a key lies within the bounds of a range scan iff it has the probe's prefix and its time is in the window, whatever its id -/
theorem index_range_bounds (P P' : Bytes) (hP : P'.length = P.length) (since «until» t : Nat) (id : Bytes)
    (hs : since ≤ U64MAX) (hu : «until» ≤ U64MAX) (ht : t ≤ U64MAX) (hid : id.length = 32) (hb : ∀ b ∈ id, b < 256) :
    inRange (P ++ (revTime «until» ++ zeros32)) (P ++ (revTime since ++ ffs32)) (P' ++ (revTime t ++ id)) =
      (P' == P && decide (since ≤ t) && decide (t ≤ «until»)) :=
  key_in_range P P' hP since «until» t id hs hu ht hid hb

/-- a tag-index key lies within the bounds iff letter and value (zero-padded or cut to 182 bytes) are the probe's and its time
is in the window -/
theorem tag_index_range_bounds (l l' : Nat) (v v' : Bytes) (since «until» t : Nat) (id : Bytes) (hs : since ≤ U64MAX)
    (hu : «until» ≤ U64MAX) (ht : t ≤ U64MAX) (hid : id.length = 32) (hb : ∀ b ∈ id, b < 256) :
    inRange (keyTc l v «until» zeros32) (keyTc l v since ffs32) (keyTc l' v' t id) =
      ((l' == l && pad182 v' == pad182 v) && decide (since ≤ t) && decide (t ≤ «until»)) :=
  tc_range l l' v v' since «until» t id hs hu ht hid hb

theorem time_index_scan (live : List SEv) (hw : ∀ x ∈ live, KeyWf x) (since «until» : Nat)
    (hs : since ≤ U64MAX) (hu : «until» ≤ U64MAX) :
    byteScan live (fun x => keyCi x.e.createdAt x.e.id) (keyCi «until» zeros32) (keyCi since ffs32) =
      ciScan live since «until» := ci_byteScan live hw since «until» hs hu

theorem author_index_scan (live : List SEv) (hw : ∀ x ∈ live, KeyWf x) (author : Bytes) (ha : author.length = 32)
    (since «until» : Nat) (hs : since ≤ U64MAX) (hu : «until» ≤ U64MAX) :
    byteScan live (fun x => keyAc x.e.pubkey x.e.createdAt x.e.id) (keyAc author «until» zeros32) (keyAc author since ffs32) =
      acScan live author since «until» := ac_byteScan live hw author ha since «until» hs hu

theorem author_kind_index_scan (live : List SEv) (hw : ∀ x ∈ live, KeyWf x) (author : Bytes) (ha : author.length = 32)
    (kind : Nat) (hk : kind < 65536) (since «until» : Nat) (hs : since ≤ U64MAX) (hu : «until» ≤ U64MAX) :
    byteScan live (fun x => keyAkc x.e.pubkey x.e.kind x.e.createdAt x.e.id) (keyAkc author kind «until» zeros32)
      (keyAkc author kind since ffs32) = akcScan live author kind since «until» :=
  akc_byteScan live hw author ha kind hk since «until» hs hu

/-- the all-ones id at `created_at = since` is inside (the bound `Excluded(…ff×32)` missed it: DESIGN.md §7 #11) -/
example : inRange (keyCi 200 zeros32) (keyCi 100 ffs32) (keyCi 100 ffs32) = true := by decide +kernel

/-- the tag table holds one row per event and distinct `(letter, padded value)`; a range read returns each event with SOME tag named
`letter` whose value pads to the same 182 bytes once -/
theorem tag_index_scan (live : List SEv) (hw : ∀ x ∈ live, KeyWf x) (letter : Nat) (value : Bytes)
    (since «until» : Nat) (hs : since ≤ U64MAX) (hu : «until» ≤ U64MAX) :
    rowScan (tagRows live fun _ => []) (keyTc letter value «until» zeros32) (keyTc letter value since ffs32) =
      tcScan live letter value since «until» := tc_rowScan live hw letter value since «until» hs hu

theorem author_tag_index_scan (live : List SEv) (hw : ∀ x ∈ live, KeyWf x) (author : Bytes) (ha : author.length = 32) (letter : Nat)
    (value : Bytes) (since «until» : Nat) (hs : since ≤ U64MAX) (hu : «until» ≤ U64MAX) :
    rowScan (tagRows live fun e => e.pubkey) (keyAtc author letter value «until» zeros32) (keyAtc author letter value since ffs32) =
      atcScan live author letter value since «until» := atc_rowScan live hw author ha letter value since «until» hs hu

theorem kind_tag_index_scan (live : List SEv) (hw : ∀ x ∈ live, KeyWf x) (kind : Nat) (hk : kind < 65536) (letter : Nat)
    (value : Bytes) (since «until» : Nat) (hs : since ≤ U64MAX) (hu : «until» ≤ U64MAX) :
    rowScan (tagRows live fun e => be16 e.kind) (keyKtc kind letter value «until» zeros32) (keyKtc kind letter value since ffs32) =
      ktcScan live kind letter value since «until» := ktc_rowScan live hw kind hk letter value since «until» hs hu

/-- `tagRows` are the keys the driver dumps for the three tag tables (`KYS`, compared with the real tables after every step) -/
theorem tag_rows_are_dumped_keys (live : List SEv) (k : Bytes) :
    (k ∈ tableKeys live "tc" ↔ k ∈ (tagRows live fun _ => []).map (·.1)) ∧
    (k ∈ tableKeys live "atc" ↔ k ∈ (tagRows live fun e => e.pubkey).map (·.1)) ∧
    (k ∈ tableKeys live "ktc" ↔ k ∈ (tagRows live fun e => be16 e.kind).map (·.1)) :=
  ⟨tableKeys_tc live k, tableKeys_atc live k, tableKeys_ktc live k⟩

/-- two tags of one event falling on one key give one row, found once -/
example : let x : SEv := ⟨8, ⟨List.replicate 32 1, List.replicate 32 2, [], 1, 5, [[[116], [97]], [[116], [97, 0]], [[116], [98]]], []⟩⟩
    rowScan (tagRows [x] fun _ => []) (keyTc 116 [97] 9 zeros32) (keyTc 116 [97] 0 ffs32) = [x] := by
  decide +kernel

/-- `PADLEN` in `lmdb/mod.rs` is the model's 182 (`Pocket.index_padding_from_source`, restated for property C05) -/
theorem index_padding_from_source (v : Bytes) : ∀ p ∈ Src.c_lmdb_PADLEN, (pad182 v).length = p := Pocket.index_padding_from_source v

/-- the six `key_*_index` builders of `lmdb/mod.rs` build the model's keys (`Pocket.keys_from_source`, restated for property C05) -/
theorem keys_from_source (author value id : Bytes) (kind letter t : Nat) :
    Src.keyCi t id = keyCi t id ∧ Src.keyAc author t id = keyAc author t id ∧ Src.keyAkc author kind t id = keyAkc author kind t id ∧
    Src.keyTc letter value t id = keyTc letter value t id ∧ Src.keyAtc author letter value t id = keyAtc author letter value t id ∧
    Src.keyKtc kind letter value t id = keyKtc kind letter value t id := Pocket.keys_from_source author value id kind letter t

/-- each `*_iter` reads from (`until`, all-zero id) to (`since`, all-ones id), both included (`Pocket.iter_bounds_from_source`,
restated for property C05) -/
theorem iter_bounds_from_source (author value : Bytes) (kind letter since «until» : Nat) :
    (Src.ciIterLo since «until» = keyCi «until» zeros32 ∧ Src.ciIterHi since «until» = keyCi since ffs32 ∧ Src.ciIterInclusive = (true, true)) ∧
    (Src.acIterLo author since «until» = keyAc author «until» zeros32 ∧ Src.acIterHi author since «until» = keyAc author since ffs32 ∧
      Src.acIterInclusive = (true, true)) ∧
    (Src.akcIterLo author kind since «until» = keyAkc author kind «until» zeros32 ∧ Src.akcIterHi author kind since «until» = keyAkc author kind since ffs32 ∧
      Src.akcIterInclusive = (true, true)) ∧
    (Src.tcIterLo letter value since «until» = keyTc letter value «until» zeros32 ∧ Src.tcIterHi letter value since «until» = keyTc letter value since ffs32 ∧
      Src.tcIterInclusive = (true, true)) ∧
    (Src.atcIterLo author letter value since «until» = keyAtc author letter value «until» zeros32 ∧
      Src.atcIterHi author letter value since «until» = keyAtc author letter value since ffs32 ∧ Src.atcIterInclusive = (true, true)) ∧
    (Src.ktcIterLo kind letter value since «until» = keyKtc kind letter value «until» zeros32 ∧
      Src.ktcIterHi kind letter value since «until» = keyKtc kind letter value since ffs32 ∧ Src.ktcIterInclusive = (true, true)) :=
  Pocket.iter_bounds_from_source author value kind letter since «until»

/-- the scraping allowance `find_events` computes is the model's `scrapeAllowed` (`Pocket.scrape_gate_from_source`, restated for
property C05) -/
theorem scrape_gate_from_source (f : FilterRec) (allow : Bool) (allowLimit allowSecs now : Nat) :
    Src.scrapeAllow allow f.limit allowLimit allowSecs f.since f.until now = scrapeAllowed f allow allowLimit allowSecs now :=
  Pocket.scrape_gate_from_source f allow allowLimit allowSecs now

end Pocket.C05
