import Pocket.Lemmas.Hll
import Pocket.Lemmas.Hex
import Pocket.Model.JsonParse
import Pocket.Spec.Sketch
/-
C20 — HyperLogLog sketches merge like sets and estimate without failing.
A sketch (`Hll8`) is its 256 registers; `hllMerge` is `+=`, `hllAdd` is `add_element`, `hllFromHex`/`hllToHex` the hex
import/export.  Strongest: `sketch_union`, with `add_ok`.  Of `estimate_count` only the number of zero registers is modelled
(`zeroCount_new`): the rest is floating point (DESIGN.md §10), compared by the correspondence check; its accuracy is a labelled
statistical test.
-/
namespace Pocket.C20
open Pocket

/-- merging (`+=`) is commutative on sketches of one size; every `Hll8` has 256 registers -/
theorem merge_comm (a b : Regs) (h : a.length = b.length) : hllMerge a b = hllMerge b a :=
  hllMerge_comm a b h

theorem merge_assoc (a b c : Regs) (h1 : a.length = b.length) (h2 : b.length = c.length) :
    hllMerge (hllMerge a b) c = hllMerge a (hllMerge b c) := hllMerge_assoc a b c h1 h2

theorem merge_idem (a : Regs) : hllMerge a a = a := hllMerge_idem a

theorem countZeros_le (l : Bytes) : countZeros l ≤ 8 * l.length := by
  induction l with
  | nil => simp [countZeros]
  | cons b l ih =>
    simp only [countZeros, List.length_cons]
    split <;> omega

/-- the `(register, rho)` pair `add_element` derives from an element -/
def elemKey (input : Bytes) (offset : Nat) : Nat × Nat :=
  (input.getD offset 0, countZeros (input.drop (offset + 1)) + 1)

/-- `add_element` succeeds and is one register update; its `u8` zero count cannot overflow (rho ≤ 249) -/
theorem add_ok (r : Regs) (input : Bytes) (offset : Nat) (hl : input.length = 32) (ho : offset < 24) :
    hllAdd r input offset = .ok (step r (elemKey input offset)) ∧ (elemKey input offset).2 ≤ 249 := by
  have hz := countZeros_le (input.drop (offset + 1))
  have hd : (input.drop (offset + 1)).length ≤ 31 := by simp [hl]
  have hb : countZeros (input.drop (offset + 1)) + 1 ≤ 249 := by omega
  refine ⟨?_, hb⟩
  rw [hllAdd, if_neg (Nat.not_le.2 ho)]
  exact if_neg (Nat.not_lt.2 (Nat.le_trans hb (by decide)))

theorem add_rejects_offset_ge_24 (r : Regs) (input : Bytes) (offset : Nat) (ho : offset ≥ 24) :
    hllAdd r input offset = .err := by
  simp [hllAdd, ho]

theorem add_idem (r : Regs) (x : Nat × Nat) : step (step r x) x = step r x := step_idem r x

theorem add_comm (r : Regs) (x y : Nat × Nat) : step (step r x) y = step (step r y) x :=
  step_comm r x y

def sketch (l : List (Nat × Nat)) : Regs := sketchFrom hllNew l

theorem hllNew_length : hllNew.length = 256 := by rw [hllNew, List.length_replicate]

theorem sketch_length (l : List (Nat × Nat)) : (sketch l).length = 256 := by
  rw [sketch, sketchFrom_length, hllNew_length]

private theorem hllNew_merge (b : Regs) (h : b.length = 256) : hllMerge hllNew b = b := by
  rw [hllMerge_comm _ _ (by rw [hllNew_length, h])]
  have := hllMerge_zeros b
  rw [h] at this
  exact this

theorem sketch_append (A B : List (Nat × Nat)) :
    sketch (A ++ B) = hllMerge (sketch A) (sketch B) := by
  rw [sketch, sketchFrom_append, sketchFrom_eq_merge, sketchFrom_length, hllNew_length]
  rfl

/-- set semantics: neither the order nor the multiplicity of the elements matters -/
theorem sketch_set_ext (A B : List (Nat × Nat)) (h : ∀ x, x ∈ A ↔ x ∈ B) : sketch A = sketch B :=
  sketchFrom_set_ext hllNew A B h

/-- the sketch of a union is the merge of the sketches -/
theorem sketch_union (A B U : List (Nat × Nat)) (h : ∀ x, x ∈ U ↔ x ∈ A ∨ x ∈ B) :
    sketch U = hllMerge (sketch A) (sketch B) := by
  rw [← sketch_append]
  exact sketch_set_ext U (A ++ B) (fun x => by rw [h x, List.mem_append])

theorem hex_roundtrip (r : Regs) (hl : r.length = 256) (hb : AllBytes r) :
    hllFromHex (hllToHex r) = .ok r := by
  unfold hllFromHex hllToHex readHex
  rw [hexOf_length, hl]
  simp [unhexPairs_hexOf r hb]

def lowerHex (c : Nat) : Nat := if 65 ≤ c ∧ c ≤ 70 then c + 32 else c

private theorem hexInv_lower (c v : Nat) (h : hexInv c = some v) :
    v < 16 ∧ hexDigitLower v = lowerHex c := by
  unfold hexDigitLower lowerHex
  -- a decimal digit, an upper-case letter (exported in lower case: + 32), a lower-case letter
  rcases hexInv_eq_some.1 h with ⟨h1, h2, rfl⟩ | ⟨h1, h2, rfl⟩ | ⟨h1, h2, rfl⟩
  · rw [if_pos (by omega), if_neg (by omega)]; omega
  · rw [if_neg (by omega), if_pos ⟨h1, h2⟩]; omega
  · rw [if_neg (by omega), if_neg (by omega)]; omega

/-- whatever text the import accepts, exporting what was imported gives that text lower-cased -/
theorem hex_import_export : ∀ (s : Bytes) (r : Regs), unhexPairs s = .ok r →
    hexOf r = s.map lowerHex
  | [], r, h => by simp [unhexPairs] at h; subst h; simp [hexOf]
  | [_], r, h => by simp [unhexPairs] at h
  | hc :: lc :: rest, r, h => by
    rw [unhexPairs] at h
    -- only two hex characters followed by a readable rest answer `ok`: the byte's two digits are those characters' values
    split at h
    · rename_i hv lv hh hl
      split at h
      · rename_i r' hr
        cases h
        have ⟨hv16, hvd⟩ := hexInv_lower _ _ hh
        have ⟨lv16, lvd⟩ := hexInv_lower _ _ hl
        have e1 : (hv * 16 + lv) / 16 % 16 = hv := by
          rw [Nat.mul_comm, Nat.mul_add_div (by decide), Nat.div_eq_of_lt lv16, Nat.add_zero, Nat.mod_eq_of_lt hv16]
        have e2 : (hv * 16 + lv) % 16 = lv := by rw [Nat.mul_add_mod', Nat.mod_eq_of_lt lv16]
        simp only [hexOf, List.map_cons, hex_import_export rest r' hr, e1, e2, hvd, lvd]
      · cases h
      · cases h
    · cases h

/-- the input of the estimate's linear-counting branch on the empty sketch: `ln(256/256) = 0` -/
theorem zeroCount_new : zeroCount hllNew = 256 := by
  rw [zeroCount, hllNew, List.filter_replicate_of_pos rfl, List.length_replicate]

/-- non-vacuity: a concrete sketch, and the key of a concrete element -/
example : (sketch [(3, 5), (200, 9), (3, 2)]).length = 256 ∧
    elemKey (List.replicate 16 0 ++ [7] ++ List.replicate 15 0) 16 = (7, 121) := by
  refine ⟨sketch_length _, by decide⟩

/-- the NIP-45 offset `Filter::hyperloglog_offset` yields is one `add_element` accepts, whatever byte stands at position 32 of
the tag value -/
theorem filter_offset_in_range (f : FilterRec) (n : Nat) (h : hllOffset f = some n) : 8 ≤ n ∧ n ≤ 23 := by
  -- the one branch that answers, answers `some (v + 8)` with `v` the value of a hex character
  unfold hllOffset at h
  obtain ⟨-, h⟩ := Option.ite_none_left_eq_some.1 h
  dsimp only at h
  split at h
  · obtain ⟨-, h⟩ := Option.ite_none_left_eq_some.1 h
    split at h
    · obtain ⟨-, h⟩ := Option.ite_none_left_eq_some.1 h
      split at h
      · rename_i v hv
        cases h
        exact ⟨Nat.le_add_left 8 v, Nat.add_le_add_right (Nat.le_of_lt_succ (hexInv_lower _ v hv).1) 8⟩
      · cases h
    · cases h
  · cases h

end Pocket.C20
