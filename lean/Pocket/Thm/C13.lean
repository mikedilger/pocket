import Pocket.Lemmas.FromSourceConsts
import Pocket.Model.Crash
import Pocket.Lemmas.StoreRead
import Pocket.Lemmas.EventMap
import Pocket.Lemmas.FromSourceEventMap
import Pocket.Spec.StoreInv
/-
C13 — killing the process at any instant leaves a consistent, reopenable store.
PARTIAL (DESIGN.md §6/C13): process kill only; LMDB's commit atomicity, the kernel's page cache and the absence of
reordering across the `SeqCst` fence are trusted; the check kills the real store at every `verif` hook, reopens and compares.
-/
namespace Pocket.C13
open Pocket

/-- every state a `store_event` call can be killed in is consistent, reads back every earlier offset, and has the tables
of before the call or of after it -/
theorem store_crash_consistent (s : Store) (hi : Inv s) (e : EventRec) (c : Store)
    (hc : c ∈ storeCrashStates s e) :
    Inv c ∧ (c.db = s.db ∨ c.db = (storeEvent s e).2.db) ∧ (∀ x ∈ s.log, x ∈ c.log) ∧
    (∀ x ∈ c.db.live, getById c x.e.id = some x.e ∧ getByOffset c x.off = some x.e) := by
  have main : Inv c ∧ (c.db = s.db ∨ c.db = (storeEvent s e).2.db) ∧ (∀ x ∈ s.log, x ∈ c.log) := by
    rcases storeCrashStates_cases s e with h | h <;> rw [h] at hc
    · rw [List.mem_singleton.mp hc]; exact ⟨hi, Or.inl rfl, fun x hx => hx⟩
    · simp only [List.mem_cons, List.not_mem_nil, or_false] at hc
      rcases hc with rfl | rfl | rfl | rfl
      · exact ⟨hi, Or.inl rfl, fun x hx => hx⟩
      · exact ⟨Inv_end_le s hi _ (align8_ge s.end), Or.inl rfl, fun x hx => hx⟩
      · exact ⟨Inv_appended s e hi, Or.inl rfl,
          fun x hx => by simp only [appendLog]; exact List.mem_append_left _ hx⟩
      · exact ⟨Inv_storeEvent s e hi, Or.inr rfl,
          fun x hx => step_log_mono s (.store e) nofun x hx⟩
  obtain ⟨h1, h2, h3⟩ := main
  exact ⟨h1, h2, h3, fun x hx => ⟨getById_of_mem c h1 x hx, getByOffset_of_mem c h1 x (h1.liveInLog x hx)⟩⟩

/-- every state a `remove_event` call can be killed in is consistent, and is the state before or after the call -/
theorem remove_crash_consistent (s : Store) (hi : Inv s) (id : Bytes) (c : Store)
    (hc : c ∈ removeCrashStates s id) : Inv c ∧ (c = s ∨ c = removeEvent s id) := by
  simp only [removeCrashStates, List.mem_cons, List.not_mem_nil, or_false] at hc
  rcases hc with rfl | rfl
  · exact ⟨hi, Or.inl rfl⟩
  · exact ⟨Inv_removeEvent s id hi, Or.inr rfl⟩

/-- events removed one transaction at a time, as `vanish` removes what its queries found: a kill leaves a subset of them
gone, nothing else touched -/
theorem vanish_crash_subset (live : List SEv) (evs : List SEv) (c : List SEv)
    (hc : c ∈ removeAllStates live evs) : c.Sublist live ∧ (removeAll live evs).Sublist c := by
  induction evs generalizing live with
  | nil =>
    simp only [removeAllStates, List.mem_singleton] at hc; subst hc
    exact ⟨List.Sublist.refl _, List.Sublist.refl _⟩
  | cons x evs ih =>
    simp only [removeAllStates, List.mem_cons] at hc
    rcases hc with rfl | hc
    · exact ⟨List.Sublist.refl _, removeAll_sublist _ _⟩
    · obtain ⟨h1, h2⟩ := ih _ hc
      exact ⟨h1.trans (removeId_sublist _ _), h2⟩

/-- whatever state the creation of a store directory is killed in, the next open starts from an empty initialised map
(that a file sized but never given its header reads as uninitialised is `openMap`'s table, a modelling decision) -/
theorem creation_crash_consistent (m : MapFile) (hm : m ∈ creationStates) : openMap m = 8 := by
  simp only [creationStates, List.mem_cons, List.not_mem_nil, or_false] at hm
  rcases hm with rfl | rfl | rfl | rfl <;> rfl

/-- an initialised map is reopened at its recorded end -/
theorem reopen_end (e : Nat) (he : 8 ≤ e) : openMap (.initialised e) = e := by
  rw [openMap, if_neg (Nat.not_lt.mpr he)]

/-- the map file through a killed `store_event` (`set_len` truncates in the model): whatever durable state the kill leaves,
the file is no shorter than before and the marker is the old, the aligned or the final one; the next `EventStore::new`
keeps that marker and the real file length, and every later store only extends the file -/
theorem store_kill_map_states (chunk : Nat) (hc : chunk % 8 = 0) (hpos : 0 < chunk) (m : EMap) (hi : EMInv m)
    (size fl mk : Nat) (h : (fl, mk) ∈ emStoreStates chunk m size) :
    m.fileLen ≤ fl ∧ (mk = m.marker ∨ mk = align8 m.marker ∨ mk = align8 m.marker + size) ∧
    ∃ m', emOpen chunk fl mk = .ok m' ∧ EMInv m' ∧ m'.marker = mk ∧ m'.fileLen = fl ∧
      ∀ size', ∃ m'', emStore chunk m' size' = .ok (align8 mk, m'') ∧ EMInv m'' ∧ fl ≤ m''.fileLen := by
  obtain ⟨h1, h2, h3, h4, h5⟩ := emStore_crash_states chunk hc m hi size fl mk h
  obtain ⟨m', ho, hi', hm, hf⟩ := emOpen_existing chunk fl mk h3 h4 h2
  refine ⟨h1, h5, m', ho, hi', hm, hf, fun size' => ?_⟩
  obtain ⟨m'', hs, hi'', _, hle⟩ := emStore_ok chunk hc hpos m' hi' size'
  exact ⟨m'', by rw [← hm]; exact hs, hi'', by rw [← hf]; exact hle⟩

/-- at map level: an absent, empty, or sized-but-never-initialised file opens as an empty initialised map of one chunk -/
theorem creation_map_states (chunk : Nat) (hc : chunk % 8 = 0) (hc8 : 8 ≤ chunk) (fl mk : Nat)
    (h : (fl, mk) ∈ [(0, 0), (chunk, 0)]) :
    emOpen chunk fl mk = .ok ⟨chunk, 8, chunk, chunk⟩ ∧ EMInv ⟨chunk, 8, chunk, chunk⟩ := by
  have h2 : ¬ chunk < 8 := Nat.not_lt.mpr hc8
  refine ⟨?_, ⟨Nat.le_refl _, hc8, rfl, rfl, hc⟩⟩
  simp only [List.mem_cons, Prod.mk.injEq, List.not_mem_nil, or_false] at h
  rcases h with ⟨rfl, rfl⟩ | ⟨rfl, rfl⟩
  · have h1 : 0 < chunk := Nat.lt_of_lt_of_le (by decide) hc8
    simp [emOpen, h1, h2]
  · simp [emOpen, h2]

/-- non-vacuity: a store of 5000 bytes into a fresh one-chunk map passes through two growth rounds -/
example : emStoreStates 2048 ⟨2048, 8, 2048, 2048⟩ 5000 = [(2048, 8), (2048, 8), (4096, 8), (6144, 8), (6144, 5008)] := by
  decide

/-- both `EVENT_MAP_CHUNK`s are multiples of 8 and at least the header (`Pocket.map_chunks_from_source`) -/
theorem map_chunks_from_source :
    ∀ c ∈ Src.c_event_store_EVENT_MAP_CHUNK_debug ++ Src.c_event_store_EVENT_MAP_CHUNK_release, c % 8 = 0 ∧ 8 ≤ c :=
  Pocket.map_chunks_from_source

/-- the event-map model is `event_store.rs` as it reads today: open, padding, one round of growth
(`Pocket.em_open_from_source`, `em_pad_from_source`, `em_grow_from_source`) -/
theorem event_map_from_source (chunk fileLen marker : Nat) (m : EMap) :
    (emOpen chunk fileLen marker =
      (let len := Src.esInitLen chunk fileLen marker 8 8
       if len < 8 then .err
       else .ok { fileLen := len, marker := if Src.esNew fileLen marker 8 8 then 8 else marker,
                  memLen := Src.esRemembered len, mapLen := len })) ∧
    emPad m = Src.esPad m.marker ∧
    emGrow chunk m =
      { m with fileLen := (Src.esGrow chunk m.fileLen m.mapLen m.memLen).1,
               mapLen := (Src.esGrow chunk m.fileLen m.mapLen m.memLen).2.1,
               memLen := (Src.esGrow chunk m.fileLen m.mapLen m.memLen).2.2 } :=
  ⟨em_open_from_source chunk fileLen marker, em_pad_from_source m, em_grow_from_source chunk m⟩

end Pocket.C13
