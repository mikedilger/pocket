import Pocket.Lemmas.FromSourceConsts
import Pocket.Lemmas.FromSourceHex
import Pocket.Lemmas.ParseWF
import Pocket.Lemmas.ParseFilterWF
import Pocket.Spec.Sized
/-
C03 — all parsers are total and memory-safe on arbitrary bytes and buffer sizes.
Where the Rust code tests a length before it indexes, slices or adds, the model has the same test and returns `.err`; no function of
this layer has a `.panic` of its own, so `≠ .panic` holds by the shape of the model.  That the code does not panic where the model
returns is left to the correspondence check (every request runs under `catch_unwind`).  The skip family recurses at most
`MAX_BURN_DEPTH` deep.  The last two theorems tie the `\u` hex table and two bounds to the source text.
-/
namespace Pocket.C03
open Pocket

theorem nextCodePoint_total (inp : Bytes) : nextCodePoint inp ≠ .panic := (nextCodePoint_all inp).ne_panic
theorem jsonEscape_total (inp : Bytes) : jsonEscape inp ≠ .panic := (jsonEscape_all inp).ne_panic
theorem jsonUnescape_total (inp : Bytes) (cap : Nat) : jsonUnescape inp cap ≠ .panic := (jsonUnescape_all inp cap).ne_panic
theorem readHex_total (n : Nat) (inp : Bytes) : readHex n inp ≠ .panic := (readHex_all n inp).ne_panic
theorem parseEvent_total (inp buf : Bytes) : parseEvent inp buf ≠ .panic := (parseEvent_all inp buf).ne_panic
theorem parseFilter_total (inp buf : Bytes) : parseFilter inp buf ≠ .panic := (parseFilter_all inp buf).ne_panic
theorem tagsFromJson_total (inp buf : Bytes) : tagsFromJson inp buf ≠ .panic := (tagsFromJson_all inp buf).ne_panic

/-- `json_unescape` writes only inside its buffer (the guard of its `unsafe get_unchecked_mut` and of `encode_utf8`'s) and
consumes no more than the input -/
theorem unescape_bounds (inp : Bytes) (cap c : Nat) (o : Bytes)
    (h : jsonUnescape inp cap = .ok (c, o)) : o.length ≤ cap ∧ c ≤ inp.length :=
  (jsonUnescape_all inp cap).of_ok h

/-- `burn_value` refuses nesting beyond `MAX_BURN_DEPTH` instead of recursing into it -/
theorem burn_depth_limited (fuel : Nat) (inp : Bytes) (depth : Nat) (h : depth > MAX_BURN_DEPTH) :
    burnValue fuel inp depth = .err := by
  cases fuel with
  | zero => simp [burnValue]
  | succ fuel => simp [burnValue, h]

/-- a successful `Event::from_json` wrote, inside the buffer, the encoding of an event whose parts fit their fields; every
accessor and iterator (`eventDecode`) reads it back without leaving the value -/
theorem parseEvent_wellformed (inp buf : Bytes) (c n : Nat) (out : Bytes)
    (h : parseEvent inp buf = .ok (c, n, out)) :
    c ≤ inp.length ∧ n ≤ buf.length ∧ out.length = buf.length ∧ out.drop n = buf.drop n ∧
    ∃ e, eventDecode (out.take n) = .ok e ∧ EventSized e := by
  obtain ⟨e, hs, hout, hn, hnb, hc⟩ := parseEvent_wf inp buf c n out h
  obtain ⟨e1, e2, e3⟩ := written_prefix (encodeEvent e) buf n hn.symm hnb
  rw [hout]  -- not `subst`: it would bring the encoding to weak head normal form
  exact ⟨hc, hnb, e3, e2, e, by rw [e1]; exact eventDecode_encode e hs, hs⟩

/-- a successful `Tags::from_json` wrote a well-formed tag section -/
theorem tagsFromJson_wellformed (inp buf : Bytes) (c n : Nat) (out : Bytes)
    (h : tagsFromJson inp buf = .ok (c, n, out)) :
    c ≤ inp.length ∧ ∃ ts, tagsDecode (out.take n) = .ok ts ∧ tagsSize ts ≤ 65535 := by
  obtain ⟨hc, ts, hts, hfit⟩ := (tagsFromJson_all inp buf).of_ok h
  refine ⟨hc, ts, ?_, hfit⟩
  rw [show out.take n = encodeTags ts from hts]
  exact tagsDecode_encode ts hfit

/-- a successful `Filter::from_json` wrote, inside the buffer, the encoding of a filter with consistent counts, lengths and
offsets; every accessor and iterator (`filterDecode`) reads it back without leaving the value -/
theorem parseFilter_wellformed (inp buf : Bytes) (c n : Nat) (out : Bytes)
    (h : parseFilter inp buf = .ok (c, n, out)) :
    c ≤ inp.length ∧ n ≤ buf.length ∧ out.length = buf.length ∧ out.drop n = buf.drop n ∧
    ∃ f, filterDecode (out.take n) = .ok f ∧ FilterSized f := by
  obtain ⟨f, hs, hout, hn, hnb, hc⟩ := parseFilter_wf inp buf c n out h
  obtain ⟨e1, e2, e3⟩ := written_prefix (encodeFilter f) buf n hn.symm hnb
  rw [hout]
  exact ⟨hc, hnb, e3, e2, f, by rw [e1]; exact filterDecode_encode f hs, hs⟩

/-- the hypothesis of `tagsFromJson_wellformed` is satisfiable; a truncated text is an error, not a panic -/
example : (tagsFromJson [91, 91, 34, 97, 34, 44, 34, 98, 34, 93, 44, 91, 93, 93] (List.replicate 40 7)).isOk = true ∧
    tagsFromJson [91, 91, 34, 97] (List.replicate 40 7) = .err := by decide

/-- `hexVal`, which reads the `\u` digits of `json_unescape`, is the lookup in the source's `HEX_INVERSE` table -/
theorem unescape_hex_table_from_source (b : Nat) (hb : b < 256) :
    hexVal b = (match Src.hexInverse[b]? with | some h => if h = 255 then none else some h | none => none) :=
  hex_table_unescape_from_source b hb

/-- the source's nesting bound of `burn_value` and size of the table of tag-member positions are the model's -/
theorem parser_bounds_from_source : Src.c_json_parse_MAX_BURN_DEPTH = [MAX_BURN_DEPTH] ∧ Src.startTagsLen = 52 :=
  Pocket.parser_bounds_from_source

end Pocket.C03
