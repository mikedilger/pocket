import Pocket.Lemmas.FromSourceHex
import Pocket.Lemmas.ParseWF
import Pocket.Lemmas.Digits
import Pocket.Lemmas.EventOrder
import Pocket.Lemmas.EventUnknown
import Pocket.Lemmas.RoundTrip
import Pocket.Spec.Sized
import Pocket.Spec.JsonText
import Pocket.Spec.EventText
/-
C01 — event JSON parsing is faithful to an independent JSON parser.
Strongest: `complete_any_json_spelling` (completeness; `any_order_any_whitespace_unknown_members`, `any_order_any_whitespace` and `canonical_text_faithful` are special cases) and
`accepted_is_wellformed` (soundness of the shape).  The texts `evTextU` are defined in `Spec/EventText.lean`.
Not proved: upper-case hex in id/pubkey/sig, integer members with a fraction or exponent, duplicate members, unknown values
nested deeper than 64, surrogate-pair `\uXXXX\uXXXX` escapes (refused by the code) — decided by the correspondence check against
Python's `json`.  The last theorem ties the hex table to the source text of /repo (`lib/srcfacts.py`).
-/
namespace Pocket.C01
open Pocket

/-- what `Event::from_json` accepts: it wrote the encoding of an event whose parts fit their fields, the rest of the buffer
untouched, and every accessor reads the event back; the consumed length is within the input -/
theorem accepted_is_wellformed (inp buf : Bytes) (c n : Nat) (out : Bytes)
    (h : parseEvent inp buf = .ok (c, n, out)) :
    ∃ e, EventSized e ∧ out = encodeEvent e ++ buf.drop n ∧ n = (encodeEvent e).length ∧
      eventDecode (out.take n) = .ok e ∧ c ≤ inp.length := by
  obtain ⟨e, hs, hout, hn, _, hc⟩ := parseEvent_wf inp buf c n out h
  exact ⟨e, hs, hout, hn, by rw [hout, hn]; exact eventDecode_take e hs _, hc⟩

/-- the accepted kind and created_at are in range, never wrapped -/
theorem accepted_values_in_range (inp buf : Bytes) (c n : Nat) (out : Bytes)
    (h : parseEvent inp buf = .ok (c, n, out)) :
    ∃ e, eventDecode (out.take n) = .ok e ∧ e.kind < 65536 ∧ e.createdAt < 18446744073709551616 := by
  obtain ⟨e, hs, _, _, hd, _⟩ := accepted_is_wellformed inp buf c n out h
  exact ⟨e, hd, hs.kind, hs.t⟩

/-- a decimal literal that fits is read exactly, before anything that is not a digit -/
theorem created_at_literal (n : Nat) (rest : Bytes) (hn : n < 18446744073709551616)
    (hr : NoLeadingDigit rest) : readU64 (decOf n ++ rest) = .ok (n, rest) :=
  readU64_decOf n rest hn hr

/-- a literal of 2^64 or more, of any number of digits, is rejected -/
theorem created_at_wide_rejected (n : Nat) (rest : Bytes) (hn : n ≥ 18446744073709551616)
    (hr : NoLeadingDigit rest) : readU64 (decOf n ++ rest) = .err :=
  readU64_decOf_wide n rest hn

theorem kind_literal (n : Nat) (rest : Bytes) (hn : n < 65536) (hr : NoLeadingDigit rest) :
    readKind (decOf n ++ rest) = .ok (n, rest) := readKind_decOf n rest hn hr

theorem kind_wide_rejected (n : Nat) (rest : Bytes) (hn : n ≥ 65536) (hr : NoLeadingDigit rest) :
    readKind (decOf n ++ rest) = .err := readKind_decOf_wide n rest hn

/-- completeness: the seven members once each in any order (`content` before `tags` included), any unknown members (values
nested ≤ 64), any whitespace, tags and content in any JSON spelling (`TagsText`, `Spells`), hex lower-case, integers decimal:
accepted into any sufficient buffer, up to the closing brace, with exactly the bytes `from_parts` writes -/
theorem complete_any_json_spelling (e : EventRec) (hs : EventSized e)
    (hbid : ∀ b ∈ e.id, b < 256) (hbpk : ∀ b ∈ e.pubkey, b < 256) (hbsig : ∀ b ∈ e.sig, b < 256)
    (tj ec : Bytes) (htj : TagsText e.tags tj) (hec : Spells e.content ec) (buf : Bytes)
    (hbuf : (encodeEvent e).length ≤ buf.length)
    (ms : List ESpec) (hws : ∀ x ∈ ms, x.WsOk) (hnd : (ms.filterMap ESpec.mem?).Nodup)
    (hall : ∀ m : EMem, m ∈ ms.filterMap ESpec.mem?) (lead : Bytes) (hlead : AllWs lead) (R : Bytes) :
    parseEvent (lead ++ 123 :: evTextU e tj ec ms R) buf =
      .ok ((lead ++ 123 :: evTextU e tj ec ms R).length - R.length, (encodeEvent e).length,
        encodeEvent e ++ buf.drop (encodeEvent e).length) ∧
    eventDecode ((encodeEvent e ++ buf.drop (encodeEvent e).length).take (encodeEvent e).length) = .ok e :=
  ⟨parseEvent_any_order_unknown e hs hbid hbpk hbsig tj ec htj hec buf hbuf ms hws hnd hall lead hlead R,
    eventDecode_take e hs _⟩

/-- any order, whitespace and unknown members, with tags and content as `as_json` escapes them -/
theorem any_order_any_whitespace_unknown_members (e : EventRec) (hs : EventSized e)
    (hbid : ∀ b ∈ e.id, b < 256) (hbpk : ∀ b ∈ e.pubkey, b < 256) (hbsig : ∀ b ∈ e.sig, b < 256)
    (hut : TagsUtf8 e.tags) (huc : IsUtf8 e.content) (buf : Bytes)
    (hbuf : (encodeEvent e).length ≤ buf.length)
    (ms : List ESpec) (hws : ∀ x ∈ ms, x.WsOk) (hnd : (ms.filterMap ESpec.mem?).Nodup)
    (hall : ∀ m : EMem, m ∈ ms.filterMap ESpec.mem?) (lead : Bytes) (hlead : AllWs lead) (R : Bytes) :
    ∃ tj ec, tagsJson e.tags = .ok tj ∧ jsonEscape e.content = .ok ec ∧
      parseEvent (lead ++ 123 :: evTextU e tj ec ms R) buf =
        .ok ((lead ++ 123 :: evTextU e tj ec ms R).length - R.length, (encodeEvent e).length,
          encodeEvent e ++ buf.drop (encodeEvent e).length) ∧
      eventDecode ((encodeEvent e ++ buf.drop (encodeEvent e).length).take (encodeEvent e).length) = .ok e := by
  obtain ⟨tj, htj, htt⟩ := tagsJson_ok e.tags hut
  obtain ⟨ec, hec, hsp⟩ := jsonEscape_ok e.content huc
  exact ⟨tj, ec, htj, hec,
    complete_any_json_spelling e hs hbid hbpk hbsig tj ec htt hsp buf hbuf ms hws hnd hall lead hlead R⟩

/-- any order and whitespace of the seven members alone, values as `as_json` renders them -/
theorem any_order_any_whitespace (e : EventRec) (hs : EventSized e)
    (hbid : ∀ b ∈ e.id, b < 256) (hbpk : ∀ b ∈ e.pubkey, b < 256) (hbsig : ∀ b ∈ e.sig, b < 256)
    (hut : TagsUtf8 e.tags) (huc : IsUtf8 e.content) (buf : Bytes)
    (hbuf : (encodeEvent e).length ≤ buf.length)
    (ms : List MemSpec) (hws : ∀ x ∈ ms, x.WsOk) (hnd : (ms.map (·.m)).Nodup)
    (hall : ∀ m : EMem, m ∈ ms.map (·.m)) (lead : Bytes) (hlead : AllWs lead) (R : Bytes) :
    ∃ tj ec, tagsJson e.tags = .ok tj ∧ jsonEscape e.content = .ok ec ∧
      parseEvent (lead ++ 123 :: evText e tj ec ms R) buf =
        .ok ((lead ++ 123 :: evText e tj ec ms R).length - R.length, (encodeEvent e).length,
          encodeEvent e ++ buf.drop (encodeEvent e).length) ∧
      eventDecode ((encodeEvent e ++ buf.drop (encodeEvent e).length).take (encodeEvent e).length) = .ok e := by
  simp only [evText_eq_evTextU]
  refine any_order_any_whitespace_unknown_members e hs hbid hbpk hbsig hut huc buf hbuf (ms.map .known)
    (List.forall_mem_map.mpr hws) ?_ ?_ lead hlead R
  · rwa [filterMap_known]
  · rwa [filterMap_known]

/-- non-canonical spellings exist: the tags `[["e","é\n"],[]]` written `[ [ "\u0065" , "\u00E9\n" ] , [ ] ]`, the content
`a/"` written `\u0061\/\"` -/
example : TagsText [[utf8Of [101], utf8Of [233, 10]], []]
      (91 :: ([32] ++ 91 :: ([32] ++ ((34 :: ([92, 117, 48, 48, 54, 53] ++ 34 ::
        ([32] ++ 44 :: ([32] ++ 34 :: (([92, 117, 48, 48, 69, 57] ++ ([92, 110] ++ [])) ++ 34 :: ([32] ++ [93])))))) ++
        ([32] ++ 44 :: ([32] ++ 91 :: ([32] ++ ([93] ++ ([32] ++ [93]))))))))) ∧
    Spells (utf8Of [97, 47, 34]) ([92, 117, 48, 48, 54, 49] ++ ([92, 47] ++ ([92, 34] ++ []))) := by
  have ws : AllWs [32] := by unfold AllWs; decide
  refine ⟨.tags _ _ [32] [32] _ _ ws ws (.strs _ _ _ _ ?_ (.more _ _ [32] [32] _ _ ws ws ?_ (.close [32] ws)))
    (.more [] [] [32] [32] [32] [93] _ ws ws ws .empty (.close [32] ws)), ?_⟩
  · exact ⟨[101], by
      have := SpelledL.cons 101 [] _ [] (Spelling.u 48 48 54 53 0 0 6 5 (by decide) (by decide) (by decide) (by decide) (by decide)) .nil
      simpa using this, rfl⟩
  · exact ⟨[233, 10], .cons 233 [10] _ _ (Spelling.u 48 48 69 57 0 0 14 9 (by decide) (by decide) (by decide) (by decide) (by decide))
      (.cons 10 [] _ [] .n .nil), rfl⟩
  · exact ⟨[97, 47, 34], .cons 97 _ _ _ (Spelling.u 48 48 54 49 0 0 6 1 (by decide) (by decide) (by decide) (by decide) (by decide))
      (.cons 47 _ _ _ .slash (.cons 34 [] _ [] .quote .nil)), rfl⟩

/-- a nested, mixed value of the grammar of skipped values: `{"a":[1,true],"b":"x\"y"}` -/
example : JT .val 2 (123 :: ([] ++ 34 :: ([97] ++ 34 :: ([] ++ 58 :: ([] ++
    ((91 :: ([] ++ ([49] ++ ([44] ++ ([116, 114, 117, 101] ++ ([] ++ [93])))))) ++
     ([44] ++ 34 :: ([98] ++ 34 :: ([] ++ 58 :: ([] ++ ((34 :: ([120, 92, 34, 121] ++ [34])) ++ ([] ++ [125])))))))))))) := by
  refine .obj _ (.mCons [] [97] [] [] _ _ (by intro b hb; cases hb) (.raw 97 [] (by decide) (by decide) .nil)
    allWs_nil allWs_nil ?_ ?_ ?_)
  · refine .arr _ (.eCons [] [49] _ (by intro b hb; cases hb) (.num [49] ⟨49, [], rfl, Or.inr (by decide), by simp⟩) ?_ ?_)
    · refine .eCons [44] [116, 114, 117, 101] _ (by intro b hb; simp at hb; exact Or.inr hb) .tru
        (.eEnd [] (by intro b hb; cases hb)) ?_
      intro b r h; simp at h; obtain ⟨rfl, _⟩ := h; decide
    · intro b r h; simp at h; obtain ⟨rfl, _⟩ := h; decide
  · refine .mCons [44] [98] [] [] _ _ (by intro b hb; simp at hb; exact Or.inr hb) (.raw 98 [] (by decide) (by decide) .nil)
      allWs_nil allWs_nil
      (.str [120, 92, 34, 121] (.raw 120 _ (by decide) (by decide) (.esc 34 _ (.raw 121 _ (by decide) (by decide) .nil))))
      (.mEnd [] (by intro b hb; cases hb)) ?_
    intro b r h; simp at h; obtain ⟨rfl, _⟩ := h; decide
  · intro b r h; simp at h; obtain ⟨rfl, _⟩ := h; decide

/-- the member-list hypotheses of `complete_any_json_spelling` are satisfiable: nine members, two unknown -/
example : ∃ ms : List ESpec, (∀ x ∈ ms, x.WsOk) ∧ (ms.filterMap ESpec.mem?).Nodup ∧
    (∀ m : EMem, m ∈ ms.filterMap ESpec.mem?) ∧ ms.length = 9 := by
  refine ⟨[.unknown [32] [120] [] [32] [110, 117, 108, 108] [], .known ⟨[32], [9], [10], [13], .sig⟩,
    .known ⟨[], [32, 32], [], [10], .content⟩, .known ⟨[10], [], [], [], .kind⟩,
    .unknown [] [105, 100, 115] [] [] [45, 49, 46, 53, 101, 43, 51] [10],
    .known ⟨[], [], [32], [], .tags⟩, .known ⟨[], [], [], [], .id⟩, .known ⟨[9], [], [], [32], .createdAt⟩,
    .known ⟨[], [], [], [10, 10], .pubkey⟩], ?_, by decide, ?_, rfl⟩
  · intro x hx
    simp only [List.mem_cons, List.not_mem_nil, or_false] at hx
    rcases hx with rfl | rfl | rfl | rfl | rfl | rfl | rfl | rfl | rfl
    · refine ⟨?_, ?_, ?_, ?_, .raw 120 [] (by decide) (by decide) .nil, by decide, 0, by decide, .nul⟩ <;>
        (unfold AllWs; decide)
    · simp only [ESpec.WsOk, MemSpec.WsOk, AllWs]; decide
    · simp only [ESpec.WsOk, MemSpec.WsOk, AllWs]; decide
    · simp only [ESpec.WsOk, MemSpec.WsOk, AllWs]; decide
    · refine ⟨?_, ?_, ?_, ?_,
        .raw 105 _ (by decide) (by decide) (.raw 100 _ (by decide) (by decide) (.raw 115 _ (by decide) (by decide) .nil)),
        by decide, 0, by decide, .num _ ⟨45, [49, 46, 53, 101, 43, 51], rfl, Or.inl rfl, by decide⟩⟩ <;>
        (unfold AllWs; decide)
    · simp only [ESpec.WsOk, MemSpec.WsOk, AllWs]; decide
    · simp only [ESpec.WsOk, MemSpec.WsOk, AllWs]; decide
    · simp only [ESpec.WsOk, MemSpec.WsOk, AllWs]; decide
    · simp only [ESpec.WsOk, MemSpec.WsOk, AllWs]; decide
  · intro m; cases m <;> decide

/-- the text `as_json` writes is accepted with the event's values -/
theorem canonical_text_faithful (e : EventRec) (hs : EventSized e)
    (hbid : ∀ b ∈ e.id, b < 256) (hbpk : ∀ b ∈ e.pubkey, b < 256) (hbsig : ∀ b ∈ e.sig, b < 256)
    (hut : TagsUtf8 e.tags) (huc : IsUtf8 e.content) (rest buf : Bytes)
    (hbuf : (encodeEvent e).length ≤ buf.length) :
    ∃ txt c n out, eventJson e = .ok txt ∧ parseEvent (txt ++ rest) buf = .ok (c, n, out) ∧
      c = txt.length ∧ eventDecode (out.take n) = .ok e := by
  obtain ⟨txt, ht, hp⟩ := parseEvent_eventJson e hs hbid hbpk hbsig hut huc rest buf hbuf
  exact ⟨txt, _, _, _, ht, hp, rfl, eventDecode_take e hs _⟩

/-- the member-list hypotheses of `any_order_any_whitespace` are satisfiable: `sig` first, `content` before `tags`,
whitespace everywhere -/
example : ∃ ms : List MemSpec, (∀ x ∈ ms, x.WsOk) ∧ (ms.map (·.m)).Nodup ∧ (∀ m : EMem, m ∈ ms.map (·.m)) ∧
    ms.map (·.m) = [.sig, .content, .kind, .tags, .id, .createdAt, .pubkey] := by
  refine ⟨[⟨[32], [9], [10], [13], .sig⟩, ⟨[], [32, 32], [], [10], .content⟩, ⟨[10], [], [], [], .kind⟩,
    ⟨[], [], [32], [], .tags⟩, ⟨[], [], [], [], .id⟩, ⟨[9], [], [], [32], .createdAt⟩, ⟨[], [], [], [10, 10], .pubkey⟩], ?_, ?_, ?_, rfl⟩
  · simp only [MemSpec.WsOk, AllWs]
    decide
  · decide
  · intro m; cases m <;> decide

/-- `read_hex!`'s lookup in the source's `HEX_INVERSE` table (255 and bytes outside the table: no hex character) is the
model's `hexInv` -/
theorem hex_table_from_source (b : Nat) (hb : b < 256) :
    hexInv b = (match Src.hexInverse[b]? with | some h => if h = 255 then none else some h | none => none) :=
  Pocket.hex_table_from_source b hb

end Pocket.C01
