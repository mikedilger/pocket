import Pocket.Spec.AbsStore
import Pocket.Lemmas.FromSourceKind
import Pocket.Lemmas.StoreRead
import Pocket.Lemmas.Vanish
import Pocket.Thm.C09
import Pocket.Spec.StoreInv
/-
C18 — explicit removal and vanish remove exactly their targets.
`remove_event` is a filter by the model's definition; the content is `vanish_exact`: the two queries through the index plans
and the removals one by one amount to one filter, in every reachable state within the bounds of a real store.  A gift wrap
names the key when the first value of one of its `p` tags is the key in lower-case hex; other spellings are left to the check.
-/
namespace Pocket.C18
open Pocket

/-- `remove_event(id)` makes exactly the event with that id unretrievable; markers and extra tables untouched -/
theorem remove_exact (s : Store) (id : Bytes) :
    (removeEvent s id).db.live = s.db.live.filter (fun x => x.e.id != id) ∧
    (removeEvent s id).db.delIds = s.db.delIds ∧ (removeEvent s id).db.delAddrs = s.db.delAddrs ∧
    (removeEvent s id).db.extra = s.db.extra ∧ (removeEvent s id).log = s.log :=
  ⟨rfl, rfl, rfl, rfl, rfl⟩

theorem removed_is_gone (s : Store) (id : Bytes) : getById (removeEvent s id) id = none := by
  rw [getById, Option.map_eq_none_iff, findById_eq_none]
  exact fun x hx => ((mem_removeId _ id x).mp hx).2

theorem others_stay (s : Store) (hi : Inv s) (id : Bytes) (x : SEv) (hx : x ∈ s.db.live) (hne : x.e.id ≠ id) :
    getById (removeEvent s id) x.e.id = some x.e :=
  getById_of_mem _ (Inv_removeEvent s id hi) x ((mem_removeId _ id x).mpr ⟨hx, hne⟩)

/-- removal leaves no marker: resubmitted, the removed event passes the refusals or is refused as deleted (by an earlier
marker), never as a duplicate -/
theorem resubmit_after_remove (s : Store) (e : EventRec) :
    refusal (removeEvent s e.id).db e = none ∨ refusal (removeEvent s e.id).db e = some .deleted := by
  cases hr : refusal (removeEvent s e.id).db e with
  | none => exact .inl rfl
  | some r =>
    rcases (refusal_eq_some _ e r).mp hr with ⟨_, hsome⟩ | ⟨rfl, _⟩
    · -- not a duplicate: the id was just removed
      have := removed_is_gone s e.id
      rw [getById, Option.map_eq_none_iff] at this
      rw [this] at hsome; cases hsome
    · exact .inr rfl

theorem resubmit_not_deleted_by_removal (s : Store) (e : EventRec) (h : refusal s.db e = some .duplicate) :
    refusal (removeEvent s e.id).db e ≠ some .duplicate := by
  rcases resubmit_after_remove s e with h' | h' <;> rw [h'] <;> simp

/-- vanish only removes index entries: nothing is added, markers and extra tables are untouched -/
theorem vanish_only_removes (s : Store) (pk : Bytes) :
    (vanish s pk).db.live.Sublist s.db.live ∧ (vanish s pk).db.delIds = s.db.delIds ∧
    (vanish s pk).db.delAddrs = s.db.delAddrs ∧ (vanish s pk).db.extra = s.db.extra ∧
    (vanish s pk).log = s.log := by
  simp only [vanish_eq, and_true]
  exact vanishLive_sublist _ pk

/-- in every reachable state (fewer than 2^32−1 events, `u64` timestamps), after `vanish(pk)` an event is retrievable iff it
was, was not authored by `pk`, and is not a kind-1059 event one of whose `p` tags has `pk` in lower-case hex as its value -/
theorem vanish_exact (ops : List Op) (pk : Bytes) (x : SEv)
    (hlen : (run {} ops).db.live.length < U32MAX)
    (ht : ∀ y ∈ (run {} ops).db.live, y.e.createdAt ≤ U64MAX) :
    x ∈ (vanish (run {} ops) pk).db.live ↔
      (x ∈ (run {} ops).db.live ∧ x.e.pubkey ≠ pk ∧
        ¬ (x.e.kind = 1059 ∧ tagsMatch x.e.tags KEY_P (hexOf pk) = true)) :=
  Pocket.vanish_exact _ (Inv_run {} ops Inv_init).liveIds (C09.one_per_address ops) hlen ht pk x

/-- an ephemeral event that passes the refusals is stored successfully and leaves the retrievable events unchanged (refused
as deleted it can be: `delE` marks an id also when it finds no event under it) -/
theorem ephemeral_never_live (s : Store) (e : EventRec) (he : isEphemeral e.kind = true)
    (hr : refusal s.db e = none) :
    storeEvent s e = (.ok (align8 s.end), commitPlain s e) ∧ (commitPlain s e).db.live = s.db.live := by
  have h5 : e.kind ≠ 5 := fun h => by rw [h] at he; exact absurd he (by decide)
  obtain ⟨hnr, hnp⟩ := eph_not_repl e.kind he
  have hpre : preRemove s.db.live e = (s.db.live, false) := by
    unfold preRemove; simp [hnr, hnp]
  constructor
  · exact storeEvent_plain s e hr (by rw [hpre]) h5
  · unfold commitPlain txnLive
    simp only [he, if_true, hpre]

/-- "ephemeral" is what `Kind::is_ephemeral` says in /repo today (`Pocket.kind_predicates_from_source`) -/
theorem ephemeral_from_source (k : Nat) : Src.kindIsEphemeral k = isEphemeral k := (kind_predicates_from_source k).2.1

/-- C18 on the abstract store: `remove_event` takes away exactly the events with that id, `vanish` exactly the key's own events
and the kind-1059 events whose `p` tag names it; markers and log untouched -/
theorem spec_remove_vanish_exact (a : Abs) (id pk : Bytes) (x : EventRec) :
    (x ∈ (absRemove a id).live ↔ x ∈ a.live ∧ x.id ≠ id) ∧
    (x ∈ (absVanish a pk).live ↔ x ∈ a.live ∧ x.pubkey ≠ pk ∧ ¬(x.kind = 1059 ∧ tagsMatch x.tags KEY_P (hexOf pk) = true)) ∧
    (absRemove a id).delIds = a.delIds ∧ (absRemove a id).delAddrs = a.delAddrs ∧ (absRemove a id).log = a.log ∧
    (absVanish a pk).delIds = a.delIds ∧ (absVanish a pk).delAddrs = a.delAddrs ∧ (absVanish a pk).log = a.log := by
  refine ⟨?_, ?_, rfl, rfl, rfl, rfl, rfl, rfl⟩
  · simp [absRemove, List.mem_filter]
  · rw [absVanish, List.mem_filter, vanishKeeps_iff]

end Pocket.C18
