import Pocket.Model.Crash
import Pocket.Lemmas.StoreRead
import Pocket.Lemmas.RefineRun
import Pocket.Spec.AbsStore
import Pocket.Spec.AbsOp
import Pocket.Spec.StoreInv
/-
C12 — a store call that fails changes nothing observable.
Every lookup, query, marker query and entry count is a function of the committed tables `db`, so "the tables are
unchanged" is the property; the event map may have grown by the refused event's bytes (never indexed, reclaimed by rebuild).
Second half: the concrete model computes the abstract store of `Spec/AbsStore.lean`, reply and state, along every history.
-/
namespace Pocket.C12
open Pocket

/-- whenever `store_event` returns an error, whichever, every table is exactly what it was -/
theorem failed_store_noop (s : Store) (e : EventRec) (h : ∀ off, (storeEvent s e).1 ≠ .ok off) :
    (storeEvent s e).2.db = s.db := storeEvent_fail_db s e h

/-- hence lookups, markers, queries and counts are unchanged -/
theorem failed_store_observables (s : Store) (e : EventRec) (h : ∀ off, (storeEvent s e).1 ≠ .ok off) :
    let s' := (storeEvent s e).2
    (∀ id, getById s' id = getById s id) ∧
    (∀ id, s'.db.delIds.contains id = s.db.delIds.contains id) ∧
    (∀ k, delAddrGet s'.db.delAddrs k = delAddrGet s.db.delAddrs k) ∧
    (∀ f a l secs now scr, findEvents s'.db.live f a l secs now scr = findEvents s.db.live f a l secs now scr) ∧
    s'.db.live.length = s.db.live.length ∧ tagEntryCount s'.db.live = tagEntryCount s.db.live ∧
    s'.db.extra = s.db.extra := by
  intro s'
  have hdb : s'.db = s.db := storeEvent_fail_db s e h
  refine ⟨fun id => by simp [getById, hdb], fun id => by rw [hdb], fun k => by rw [hdb],
    fun f a l secs now scr => by rw [hdb], by rw [hdb], by rw [hdb], by rw [hdb]⟩

/-- after a `store_event`, failed or not, every offset returned before still reads back the same event -/
theorem failed_store_keeps_offsets (s : Store) (hi : Inv s) (e : EventRec) (x : SEv) (hx : x ∈ s.log) :
    getByOffset (storeEvent s e).2 x.off = some x.e :=
  getByOffset_of_mem _ (Inv_storeEvent s e hi) x (step_log_mono s (.store e) nofun x hx)

/-- non-vacuity: a deletion request refused at its second tag (a foreign target) leaves the target of its first tag in place -/
example :
    let a := List.replicate 32 10
    let b := List.replicate 32 11
    let e1 : EventRec := ⟨List.replicate 32 1, a, [], 1, 5, [], []⟩
    let e2 : EventRec := ⟨List.replicate 32 2, b, [], 1, 5, [], []⟩
    let req : EventRec := ⟨List.replicate 32 3, a, [], 5, 9,
      [[[101], hexOf (List.replicate 32 1)], [[101], hexOf (List.replicate 32 2)]], []⟩
    let s := run {} [.store e1, .store e2]
    (storeEvent s req).1 = .invalidDelete ∧ (storeEvent s req).2.db = s.db := by
  decide +kernel

/-- the concrete model of `store_event` computes exactly the abstract store -/
theorem store_refines_abstract (s : Store) (hi : Inv s) (e : EventRec) :
    (storeEvent s e).1 = (absStore (Abs.of s) e).1 ∧ Abs.of (storeEvent s e).2 = (absStore (Abs.of s) e).2 :=
  storeEvent_refines s hi e

/-- the same along every history of stores (refused ones and deletion requests included), removals and reopens -/
theorem history_refines_abstract (ops : List AOp) :
    Abs.of (run {} (ops.map AOp.toOp)) = ops.foldl absStep (Abs.of {}) :=
  run_refines ops {} Inv_init

/-- and along every history, vanishes and rebuilds included, of fewer than 2^32 − 1 operations with `u64` timestamps -/
theorem every_history_refines_abstract (ops : List Op) (ht : ∀ op ∈ ops, opTimeOk op) (hlen : ops.length < U32MAX) :
    Abs.of (run {} ops) = ops.foldl absOp (Abs.of {}) :=
  full_history_refines ops ht hlen

/-- C12 on the abstract store: a refused event leaves the retrievable events and both kinds of markers untouched -/
theorem abstract_failed_store (a : Abs) (e : EventRec) (h : ∀ off, (absStore a e).1 ≠ .ok off) :
    (absStore a e).2.live = a.live ∧ (absStore a e).2.delIds = a.delIds ∧ (absStore a e).2.delAddrs = a.delAddrs := by
  rcases absStore_cases a e with ⟨_, h' | h'⟩ | ⟨l, di, da, h'⟩
  · rw [h']; exact ⟨rfl, rfl, rfl⟩
  · rw [h']; exact ⟨rfl, rfl, rfl⟩
  · rw [h'] at h; exact absurd rfl (h _)

/-- the "any other error" clause, on the micro-steps of `Model/Crash.lean`: whatever stops the call before its commit (no
free reader slot, an I/O error while the map grows: worker requests `RDF`, `FSZ`), every table is what it was -/
theorem error_before_commit_noop (s : Store) (e : EventRec) :
    ∀ st ∈ (storeCrashStates s e).dropLast, st.db = s.db := by
  intro st hst
  rcases storeCrashStates_cases s e with h | h <;> rw [h] at hst
  · cases hst
  · simp only [List.dropLast, List.mem_cons, List.not_mem_nil, or_false] at hst
    rcases hst with h | h | h <;> rw [h]

/-- not vacuous: an accepted store passes through three states before its commit -/
example : (storeCrashStates {} ⟨List.replicate 32 1, List.replicate 32 2, [], 1, 5, [], []⟩).dropLast.length = 3 := by decide +kernel

end Pocket.C12
