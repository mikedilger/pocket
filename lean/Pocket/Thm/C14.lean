import Pocket.Model.Conc
import Pocket.Lemmas.StoreDel
import Pocket.Spec.StoreInv
/-
C14 — concurrent stores serialize; concurrent queries see only whole committed states.
PARTIAL (DESIGN.md §6/C14): the model has the writer lock, snapshot reads and atomic commit by construction; that LMDB's
writer mutex, its `NO_TLS` read transactions and the locks inside `mmap-append` behave so, and the memory model, are trusted.
The check forces schedules on the real store through the `verif` yield points and compares.
-/
namespace Pocket.C14
open Pocket

theorem setPhase_events (ts : List (EventRec × Phase)) (i : Nat) (p : Phase) (j : Nat) :
    ((setPhase ts i p)[j]?).map (·.1) = (ts[j]?).map (·.1) := by
  unfold setPhase
  simp only [List.getElem?_mapIdx]
  cases ts[j]? with
  | none => rfl
  | some t => simp only [Option.map_some]; split <;> rfl

theorem eventsOf_setPhase (ts : List (EventRec × Phase)) (i : Nat) (p : Phase) (order : List Nat) :
    eventsOf (setPhase ts i p) order = eventsOf ts order := by
  unfold eventsOf
  congr 1
  funext j
  exact setPhase_events ts i p j

/-- only a commit changes either side, and by the same `store_event` -/
theorem serial_turn (s : Store) (sys : Sys) (i : Nat)
    (h : sys.committed = run s ((eventsOf sys.threads sys.order).map Op.store)) :
    (turn sys i).committed = run s ((eventsOf (turn sys i).threads (turn sys i).order).map Op.store) := by
  unfold turn
  split
  · exact h
  · split
    · simp only [eventsOf_setPhase]; exact h
    · exact h
  · rename_i e hget
    simp only [eventsOf_setPhase]
    have : eventsOf sys.threads (sys.order ++ [i]) = eventsOf sys.threads sys.order ++ [e] := by
      unfold eventsOf
      simp [List.filterMap_append, hget]
    rw [this, List.map_append, run_append, ← h]
    rfl
  · exact h

/-- linearizability: under every schedule the committed state is the result of the finished store calls executed one at
a time, in the order in which their transactions ended -/
theorem committed_is_serial (s : Store) (evs : List EventRec) (sched : List Nat) :
    (runSched (initSys s evs) sched).committed =
      run s ((eventsOf (runSched (initSys s evs) sched).threads (runSched (initSys s evs) sched).order).map Op.store) :=
  List.foldlRecOn (motive := fun sys => sys.committed = run s ((eventsOf sys.threads sys.order).map Op.store)) sched turn
    (by simp [initSys, eventsOf, run]) fun sys h i _ => serial_turn s sys i h

/-- mutual exclusion: at most one thread is inside a write transaction, and it is the lock holder -/
def LockInv (sys : Sys) : Prop :=
  ∀ j e, sys.threads[j]? = some (e, .holding) → sys.lock = some j

theorem setPhase_holding (ts : List (EventRec × Phase)) (i j : Nat) (p : Phase) (e : EventRec)
    (h : (setPhase ts i p)[j]? = some (e, .holding)) :
    (j = i ∧ p = .holding) ∨ (j ≠ i ∧ ts[j]? = some (e, .holding)) := by
  simp only [setPhase, List.getElem?_mapIdx] at h
  cases hg : ts[j]? with
  | none => rw [hg] at h; cases h
  | some t =>
    rw [hg, Option.map_some, Option.some.injEq] at h
    by_cases hji : j = i
    · rw [if_pos hji] at h; cases h; exact .inl ⟨hji, rfl⟩
    · rw [if_neg hji] at h; exact .inr ⟨hji, by rw [h]⟩

theorem lockInv_turn (sys : Sys) (i : Nat) (h : LockInv sys) : LockInv (turn sys i) := by
  unfold turn
  split
  · exact h
  · split
    · -- `i` takes the free lock: no one else was inside a transaction
      rename_i hl
      intro j e' hj
      rcases setPhase_holding _ _ _ _ _ hj with ⟨rfl, _⟩ | ⟨_, hj'⟩
      · rfl
      · have := h j e' hj'; rw [hl] at this; cases this
    · exact h
  · -- `i` commits and releases: it was the only one inside a transaction
    rename_i e hget
    intro j e' hj
    rcases setPhase_holding _ _ _ _ _ hj with ⟨_, hp⟩ | ⟨hji, hj'⟩
    · cases hp
    · have h1 := h j e' hj'
      rw [h i e hget, Option.some.injEq] at h1
      exact absurd h1.symm hji
  · exact h

theorem mutual_exclusion (s : Store) (evs : List EventRec) (sched : List Nat) :
    LockInv (runSched (initSys s evs) sched) := by
  refine List.foldlRecOn (motive := LockInv) sched turn (fun j e hj => ?_) fun sys h i _ => lockInv_turn sys i h
  simp only [initSys, List.getElem?_map] at hj
  cases evs[j]? <;> simp at hj

/-- every state a concurrent reader can take its snapshot of satisfies the store invariant (every index entry leads to
complete event bytes: the append precedes the commit) -/
theorem reader_sees_whole_state (s : Store) (hi : Inv s) (evs : List EventRec) (sched : List Nat) :
    Inv (runSched (initSys s evs) sched).committed := by
  rw [committed_is_serial]
  exact Inv_run s _ hi

/-- a non-ephemeral event that was stored successfully is retrievable in the resulting state -/
theorem store_ok_live (s : Store) (hi : Inv s) (e : EventRec) (off : Nat)
    (hok : (storeEvent s e).1 = .ok off) (hne : isEphemeral e.kind = false) :
    (findById (storeEvent s e).2.db.live e.id).isSome = true := by
  have hmem := storeEvent_ok_indexed s hi e off hok hne
  unfold findById
  rw [List.find?_isSome]
  exact ⟨_, hmem, by simp⟩

/-- of two submissions of one non-ephemeral event at most one succeeds: after a success the second is a duplicate -/
theorem one_winner (s : Store) (hi : Inv s) (e : EventRec) (off : Nat)
    (hok : (storeEvent s e).1 = .ok off) (hne : isEphemeral e.kind = false) :
    (storeEvent (storeEvent s e).2 e).1 = .duplicate := by
  rw [storeEvent_refused _ e .duplicate
    ((refusal_eq_some _ e _).mpr (.inl ⟨rfl, store_ok_live s hi e off hok hne⟩))]

/-- an ids query whose every lookup goes to a fresh snapshot, `states[i]` for the i-th id (the ids plan of `find_events`
before repair #33) -/
def idsFresh (states : List Store) (ids : List Bytes) : List Bytes :=
  ((ids.zip states).filterMap fun (id, st) => findById st.db.live id).map (·.e.id)

/-- an ids query answered from one committed state: the ids found in it, in the order listed -/
def idsIn (st : Store) (ids : List Bytes) : List Bytes := (ids.filterMap (findById st.db.live)).map (·.e.id)

/-- why a query must keep to the transaction it opened: if the first two lookups of `ids = [x, a, y]` fall before two stores
and the third after them, the answer `{a, y}` is the answer in no committed state (`{a}`, `{x, a}`, `{x, a, y}`).  The model's
`findEvents` reads one state by construction; the check forces the schedule on the real store. -/
theorem ids_fresh_snapshots_witness :
    let a : EventRec := ⟨List.replicate 32 1, List.replicate 32 9, [], 1, 5, [], []⟩
    let x : EventRec := ⟨List.replicate 32 2, List.replicate 32 9, [], 1, 6, [], []⟩
    let y : EventRec := ⟨List.replicate 32 3, List.replicate 32 9, [], 1, 7, [], []⟩
    let s0 := run {} [.store a]
    let s1 := run {} [.store a, .store x]
    let s2 := run {} [.store a, .store x, .store y]
    let ids := [x.id, a.id, y.id]
    idsFresh [s0, s0, s2] ids = [a.id, y.id] ∧
    idsIn s0 ids ≠ [a.id, y.id] ∧ idsIn s1 ids ≠ [a.id, y.id] ∧ idsIn s2 ids ≠ [a.id, y.id] := by
  decide +kernel

end Pocket.C14
