import Pocket.Lemmas.FromSourceConsts
import Pocket.Lemmas.FromSourceKind
import Pocket.Lemmas.StoreAddr
import Pocket.Lemmas.RefineRun
import Pocket.Spec.AbsStore
import Pocket.Spec.StoreInv
/-
C09 — at most one event per replaceable address; newer wins, older is refused.
`addrOf e` is `(kind, author, [])` for kinds 0, 3, 10000–19999 and `(kind, author, d)` for kinds 30000–39999, `d` the value
of the first tag named `d`; a parameterized event without one has no address (the code's reading, DESIGN.md §6/C09).

`one_per_address` is the property.  Not stated: what an accepted event does to the holder it replaces (`mem_preRemove`,
`Lemmas/StoreDel.lean`: holders not newer than it go, so at equal times the later arrival wins); `frame` excludes deletion
requests (C10, C11).  The `*_from_source` theorems tie kind classes and key padding to /repo as it reads today
(`lib/srcfacts.py`); `spec_one_per_address` is the property on the abstract store.
-/
namespace Pocket.C09
open Pocket

/-- the kind classes are the NIP-01 ranges -/
theorem classify (k : Nat) :
    (isReplaceable k = true ↔ (k = 0 ∨ k = 3 ∨ (10000 ≤ k ∧ k < 20000))) ∧
    (isEphemeral k = true ↔ (20000 ≤ k ∧ k < 30000)) ∧
    (isParamReplaceable k = true ↔ (30000 ≤ k ∧ k < 40000)) := kind_ranges k

theorem step_addrUniq (s : Store) (op : Op) (hu : AddrUniq s.db.live) (hi : Inv s) :
    AddrUniq (step s op).db.live := AddrUniq_step s op hu hi

/-- after every history, at most one event per replaceable address is retrievable -/
theorem one_per_address (ops : List Op) : AddrUniq (run {} ops).db.live :=
  AddrUniq_run {} Inv_init (fun _ hx => nomatch hx) ops

/-- an event strictly older than the holder of its address is refused (as replaced; as deleted or duplicate if a marker or the
id index catches it first) and changes nothing -/
theorem store_older (s : Store) (hi : Inv s) (e : EventRec) (h : SEv) (hh : h ∈ s.db.live)
    (ha : addrOf h.e = addrOf e) (hsome : addrOf e ≠ none) (hold : e.createdAt < h.e.createdAt) :
    (storeEvent s e).2 = s ∧ ((storeEvent s e).1 = .replaced ∨ (storeEvent s e).1 = .deleted ∨
      (storeEvent s e).1 = .duplicate) := by
  have hu := Uniq_of_Inv s hi
  have hrep : (preRemove s.db.live e).2 = true := (preRemove_replaced_iff _ hu e).mpr ⟨h, hh, ha, hsome, hold⟩
  cases hr : refusal s.db e with
  | some r =>
    rw [storeEvent_refused s e r hr]
    exact ⟨rfl, (refusal_cases _ _ _ hr).elim (fun h => .inr (.inr h)) fun h => .inr (.inl h)⟩
  | none =>
    rw [storeEvent_replaced s e hr hrep]
    exact ⟨rfl, .inl rfl⟩

/-- frame: storing a non-deletion event leaves every event at another address (differing in author, kind, or any byte or
the length of `d`) or without an address where it is -/
theorem frame (s : Store) (hi : Inv s) (e : EventRec) (h5 : e.kind ≠ 5) (x : SEv) (hx : x ∈ s.db.live)
    (hdiff : addrOf x.e ≠ addrOf e ∨ addrOf e = none) : x ∈ (storeEvent s e).2.db.live := by
  have hu := Uniq_of_Inv s hi
  have hpre : x ∈ (preRemove s.db.live e).1 :=
    (mem_preRemove _ hu e x).mpr ⟨hx, fun ⟨ha, hne, _⟩ => hdiff.elim (· ha) hne⟩
  exact storeEvent_tables s e (x ∈ ·.live) hx (fun _ _ => (mem_txnLive s e x).mpr (.inl hpre)) fun h5' => absurd h5' h5

/-- the kind predicates of `kind.rs` as it reads today are the model's (`Pocket.kind_predicates_from_source`, restated for C09) -/
theorem classification_from_source (k : Nat) :
    Src.kindIsReplaceable k = isReplaceable k ∧ Src.kindIsEphemeral k = isEphemeral k ∧
      Src.kindIsParamReplaceable k = isParamReplaceable k := kind_predicates_from_source k

/-- the `d` part of an address key is padded or cut to the source's `PADLEN` (`Pocket.index_padding_from_source`, restated
for C09) -/
theorem address_padding_from_source (v : Bytes) : ∀ p ∈ Src.c_lmdb_PADLEN, (pad182 v).length = p := index_padding_from_source v

/-- in every state the ABSTRACT store (`Spec/AbsStore.lean`) reaches, two retrievable events at one replaceable address are the
same event.  The bounds (fewer than `U32MAX` operations, `u64` times) are those of `full_history_refines`, which carries the
property over: `vanish` queries with limit 2^32 − 1 and every operation may add an event (`Bounded`, `Lemmas/RefineRun.lean`) -/
theorem spec_one_per_address (ops : List Op) (ht : ∀ op ∈ ops, opTimeOk op) (hlen : ops.length < U32MAX) :
    ∀ x ∈ (ops.foldl absOp {}).live, ∀ y ∈ (ops.foldl absOp {}).live, addrOf x = addrOf y → addrOf x ≠ none → x = y := by
  rw [abs_run ops ht hlen]
  intro x hx y hy hxy hn
  obtain ⟨x', hx', rfl⟩ := List.mem_map.mp hx
  obtain ⟨y', hy', rfl⟩ := List.mem_map.mp hy
  rw [one_per_address ops x' hx' y' hy' hxy hn]

end Pocket.C09
