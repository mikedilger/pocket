import Pocket.Lemmas.EventMap
import Pocket.Model.Refs
import Pocket.Lemmas.StoreRead
import Pocket.Spec.StoreInv
/-
C15 — event references stay valid and unchanged while the store lives.
The bytes an offset denotes never change (C04).  The address does: the property is FALSE of the code whenever the map
grows, because mmap-append remaps at a new address and unmaps the old one (open known finding, DESIGN.md §7 #22); the
theorems say when references stay valid and exhibit an execution in which one dangles.
-/
namespace Pocket.C15
open Pocket

/-- the bytes at an offset never change (any continuation without rebuild) -/
theorem bytes_stable (s : Store) (hi : Inv s) (x : SEv) (hx : x ∈ s.log) (ops : List Op)
    (hno : NoRebuild ops) : getByOffset (run s ops) x.off = some x.e :=
  getByOffset_of_mem _ (Inv_run s ops hi) x (run_log_mono s ops hno x hx)

/-- without a growth step every reference stays valid -/
theorem refs_stable_no_growth (v : MapView) (x : SEv) (steps : List MapStep)
    (hs : ∀ st ∈ steps, st = MapStep.stay) : refValid (steps.foldl mapStep v) (takeRef v x) := by
  have : steps.foldl mapStep v = v :=
    List.foldlRecOn (motive := (· = v)) steps mapStep rfl fun v' hv st hst => by rw [hv, hs st hst]; rfl
  rw [this]; rfl

/-- a reference stays valid across a sequence of steps iff the mapping ends where it began -/
theorem refs_stable_iff (v : MapView) (x : SEv) (steps : List MapStep) :
    refValid (steps.foldl mapStep v) (takeRef v x) ↔ (steps.foldl mapStep v).base = v.base := by
  unfold refValid takeRef
  exact Nat.add_right_cancel_iff.trans eq_comm

/-- witness: one growth step that moves the mapping leaves an earlier reference dangling -/
theorem growth_may_move_witness :
    ∃ (v : MapView) (x : SEv) (steps : List MapStep),
      ¬ refValid (steps.foldl mapStep v) (takeRef v x) :=
  ⟨⟨4096, true⟩, ⟨8, default⟩, [.grow 8192], by unfold refValid takeRef; simp [mapStep]⟩

/-- what was written stays inside the file: a store, whatever growth rounds it needs (`set_len` can truncate), appends at or
beyond the old end marker and never leaves the file shorter than that marker (on lengths: the map model holds no bytes) -/
theorem written_region_survives_store (chunk : Nat) (hc : chunk % 8 = 0) (hpos : 0 < chunk) (m : EMap) (hi : EMInv m)
    (size : Nat) :
    ∃ m', emStore chunk m size = .ok (align8 m.marker, m') ∧ m.marker ≤ align8 m.marker ∧
      align8 m.marker + size = m'.marker ∧ m'.marker ≤ m'.fileLen ∧ m.fileLen ≤ m'.fileLen := by
  obtain ⟨m', h1, h2, h3, h4⟩ := emStore_ok chunk hc hpos m hi size
  exact ⟨m', h1, align8_ge m.marker, h3.symm, h2.marker_le_file, h4⟩

end Pocket.C15
