import Pocket.Lemmas.RefineRun
import Pocket.Lemmas.StoreCover
import Pocket.Lemmas.AddrRT
import Pocket.Spec.AbsStore
import Pocket.Spec.StoreInv
/-
C11 — accepted deletions are permanent and deletion times never move backwards.

Three groups: the markers only grow (`run_markers_mono`) and what they refuse; markers and index agree
(`covered_unretrievable`); a request whose tags all pass marks what it names (`accepted_marks_*`, stated of `handleDeletion`;
`storeEvent_request` says when its tables are those `store_event` commits).  Not stated: the three composed over a history.
`spec_covered` is the agreement on the abstract store.
-/
namespace Pocket.C11
open Pocket

theorem step_markers_mono (s : Store) (op : Op) :
    MarkersLe s.db.delIds (step s op).db.delIds s.db.delAddrs (step s op).db.delAddrs := by
  rcases step_cases s op with ⟨e, _, h⟩ | ⟨l, _, h⟩ | ⟨_, h⟩ <;> rw [h]
  · exact (storeEvent_markers s e).toMarkersLe
  · exact .refl ..
  · exact .refl ..

/-- along any history, from any state, the markers only grow -/
theorem run_markers_mono (s : Store) (ops : List Op) :
    MarkersLe s.db.delIds (run s ops).db.delIds s.db.delAddrs (run s ops).db.delAddrs :=
  run_induct (fun s' => MarkersLe s.db.delIds s'.db.delIds s.db.delAddrs s'.db.delAddrs) ops
    (fun s' op _ h => h.trans (step_markers_mono s' op)) s (.refl ..)

/-- an id marker, once set, stays set in every continuation (any operations, requests in any timestamp order) -/
theorem id_marker_permanent (s : Store) (hi : Inv s) (ops : List Op) (id : Bytes) (h : id ∈ s.db.delIds) :
    id ∈ (run s ops).db.delIds :=
  (run_markers_mono s ops).ids id h

/-- the deletion time of an address never decreases -/
theorem address_time_monotone (s : Store) (hi : Inv s) (ops : List Op) (key : AddrKey) (t : Nat)
    (h : delAddrGet s.db.delAddrs key = some t) :
    ∃ t', t ≤ t' ∧ delAddrGet (run s ops).db.delAddrs key = some t' :=
  (run_markers_mono s ops).times key t h

/-- an event whose id is marked is not stored -/
theorem marked_id_refused (s : Store) (e : EventRec) (h : e.id ∈ s.db.delIds) :
    ∀ off, (storeEvent s e).1 ≠ .ok off := by
  intro off hok
  exact ((refusal_eq_none s.db e).mp (storeEvent_ok s e off hok).1).2.1 h

/-- an event whose id is marked is not stored after any continuation either -/
theorem marked_id_refused_forever (s : Store) (hi : Inv s) (ops : List Op) (e : EventRec)
    (h : e.id ∈ s.db.delIds) : ∀ off, (storeEvent (run s ops) e).1 ≠ .ok off :=
  marked_id_refused _ e (id_marker_permanent s hi ops e.id h)

/-- an event at a deleted address, not newer than the deletion time, is refused -/
theorem covered_by_address_refused (s : Store) (e : EventRec) (a : AddrKey) (t : Nat)
    (ha : addrOf e = some a) (hm : delAddrGet s.db.delAddrs a = some t) (hle : e.createdAt ≤ t) :
    ∀ off, (storeEvent s e).1 ≠ .ok off := by
  intro off hok
  have := ((refusal_eq_none s.db e).mp (storeEvent_ok s e off hok).1).2.2 a t ha hm
  omega

/-- an event at a deleted address, not newer than the deletion time, is refused after any continuation too -/
theorem covered_by_address_refused_forever (s : Store) (hi : Inv s) (ops : List Op) (e : EventRec)
    (a : AddrKey) (t : Nat) (ha : addrOf e = some a) (hm : delAddrGet s.db.delAddrs a = some t)
    (hle : e.createdAt ≤ t) : ∀ off, (storeEvent (run s ops) e).1 ≠ .ok off := by
  obtain ⟨t', ht', hm'⟩ := address_time_monotone s hi ops a t hm
  exact covered_by_address_refused _ e a t' ha hm' (by omega)

/-- an event newer than the deletion time of its address, its id not marked, is not refused *as deleted* -/
theorem newer_not_refused (s : Store) (e : EventRec) (hid : e.id ∉ s.db.delIds)
    (hnew : ∀ a t, addrOf e = some a → delAddrGet s.db.delAddrs a = some t → t < e.createdAt) :
    refusal s.db e ≠ some .deleted := by
  intro hdel
  -- refused as deleted: the id is marked, or a marker covers the address
  rcases (refusal_eq_some s.db e _).mp hdel with ⟨h, _⟩ | ⟨_, _, h | h⟩
  · cases h
  · exact hid h
  · rw [(delByAddr_eq_false s.db e).mpr hnew] at h; cases h

/-- in every reachable state a marked id is not retrievable and every retrievable event is newer than the deletion time of
its address -/
theorem covered_unretrievable (ops : List Op) :
    let s := run {} ops
    (∀ id ∈ s.db.delIds, getById s id = none) ∧
    (∀ x ∈ s.db.live, ∀ a t, addrOf x.e = some a → delAddrGet s.db.delAddrs a = some t → t < x.e.createdAt) := by
  intro s
  have hc := NoneCovered_run {} ops fun _ h => nomatch h
  exact ⟨fun id hid => Option.map_eq_none_iff.mpr
    ((findById_eq_none _ _).mpr fun x hx hxid => (hc x hx).1 (hxid ▸ hid)), fun x hx => (hc x hx).2⟩

/-- a deletion request whose tags all pass marks every id it names (other than its own) -/
theorem accepted_marks_ids (c : List SEv) (req : EventRec) (tags : TagsRec) (st st' : DelSt)
    (h : handleDeletion c req tags st = .ok st') (hu : Uniq c) (v : Bytes) (rest : List Bytes) (id : Bytes)
    (htag : (KEY_E :: v :: rest) ∈ tags) (hhex : readHex 32 v = .ok id) (hne : id ≠ req.id) :
    id ∈ st'.delIds := by
  obtain ⟨st1, st2, h1, hg⟩ := handleDeletion_at c req tags st st' h _ htag
  apply hg.ids
  rw [delTag_e c req v rest st1 id hhex] at h1
  rcases delE_ok c req id st1 st2 h1 with ⟨hself, _⟩ | ⟨_, ⟨_, rfl⟩ | ⟨_, _, _, rfl⟩⟩
  · exact absurd hself hne
  · exact (mem_addDelId _ _ _).mpr (.inr rfl)
  · exact (mem_addDelId _ _ _).mpr (.inr rfl)

/-- a deletion request whose tags all pass marks every address it names, with a time not older than its own -/
theorem accepted_marks_addresses (c : List SEv) (req : EventRec) (tags : TagsRec) (st st' : DelSt)
    (h : handleDeletion c req tags st = .ok st') (hu : Uniq c) (v : Bytes) (rest : List Bytes)
    (k : Nat) (a d : Bytes) (htag : (KEY_A :: v :: rest) ∈ tags) (hparse : parseAddr v = some (k, a, d)) :
    ∃ t, req.createdAt ≤ t ∧ delAddrGet st'.delAddrs (k, a, normD k d) = some t := by
  obtain ⟨st1, st2, h1, hg⟩ := handleDeletion_at c req tags st st' h _ htag
  rw [delTag_a c req v rest st1 k a d hparse] at h1
  obtain ⟨rfl, rfl⟩ := delA_ok c req k a d st1 st2 h1
  -- the tag wrote a time not older than the request; later tags only move it forward
  obtain ⟨t', ht', hk'⟩ := hg.times _ _ (by rw [delAddrGet_put, if_pos rfl])
  exact ⟨t', Nat.le_trans (laterTime_cases _ _ _).1 ht', hk'⟩

/-- an `a` tag `kind:pubkey-hex:d` (any `d`, colons included) denotes exactly that address, so a request that passes marks it -/
theorem address_text_marked (c : List SEv) (req : EventRec) (tags : TagsRec) (st st' : DelSt)
    (h : handleDeletion c req tags st = .ok st') (hu : Uniq c) (rest : List Bytes)
    (k : Nat) (pk d : Bytes) (hk : k < 65536) (hpk : pk.length = 32) (hb : ∀ b ∈ pk, b < 256)
    (htag : (KEY_A :: (decOf k ++ 58 :: (hexOf pk ++ 58 :: d)) :: rest) ∈ tags) :
    ∃ t, req.createdAt ≤ t ∧ delAddrGet st'.delAddrs (k, pk, normD k d) = some t :=
  accepted_marks_addresses c req tags st st' h hu _ rest k pk d htag (parseAddr_text k pk d hk hpk hb)

/-- in every state the abstract store (`Spec/AbsStore.lean`) reaches, a marked id is not retrievable and every retrievable event
is newer than the deletion time of its address (bounds as in `C09.spec_one_per_address`) -/
theorem spec_covered (ops : List Op) (ht : ∀ op ∈ ops, opTimeOk op) (hlen : ops.length < U32MAX) :
    (∀ id ∈ (ops.foldl absOp {}).delIds, ∀ x ∈ (ops.foldl absOp {}).live, x.id ≠ id) ∧
    (∀ x ∈ (ops.foldl absOp {}).live, ∀ a t, addrOf x = some a → delAddrGet (ops.foldl absOp {}).delAddrs a = some t → t < x.createdAt) := by
  rw [abs_run ops ht hlen]
  have hc := NoneCovered_run {} ops fun _ h => nomatch h
  constructor
  · intro id hid x hx hxid
    obtain ⟨x', hx', rfl⟩ := List.mem_map.mp hx
    exact (hc x' hx').1 (hxid ▸ hid)
  · intro x hx
    obtain ⟨x', hx', rfl⟩ := List.mem_map.mp hx
    exact (hc x' hx').2

end Pocket.C11
