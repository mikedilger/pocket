import Pocket.Spec.AbsStore
import Pocket.Lemmas.FromSourceConsts
import Pocket.Lemmas.StoreRead
import Pocket.Lemmas.Layout
import Pocket.Lemmas.EventMap
import Pocket.Lemmas.FromSourceEventMap
import Pocket.Spec.StoreInv
import Pocket.Spec.Sized
/-
C04 — stored events read back byte-identical, forever.
An event's bytes are a function of the event (`encodeEvent`), so "the same event record reads back" is "a byte-for-byte
copy reads back".  `read_back_forever` is the property; it excludes `rebuild`, which starts a new map file with new
offsets (what that keeps, by id, is C16).  `map_store`, `map_reopen`: the map file itself (`Model/EventMap.lean`), tied to
`event_store.rs` as /repo has it by the `*_from_source` theorems (`lib/srcfacts.py` translates it on every run); `spec_*`:
the property on the abstract store (`Spec/AbsStore.lean`).
-/
namespace Pocket.C04
open Pocket

/-- `Inv` holds after every history from the empty store -/
theorem reachable_inv (ops : List Op) : Inv (run {} ops) := Inv_run {} ops Inv_init

/-- the offset a store returns reads back the stored event -/
theorem store_read_back (s : Store) (hi : Inv s) (e : EventRec) (off : Nat)
    (h : (storeEvent s e).1 = .ok off) : getByOffset (storeEvent s e).2 off = some e := by
  obtain ⟨_, _, _, hlog, _⟩ := storeEvent_ok s e off h
  have hi' := Inv_storeEvent s e hi
  have hx : (⟨off, e⟩ : SEv) ∈ (storeEvent s e).2.log := by rw [hlog]; simp
  exact getByOffset_of_mem _ hi' ⟨off, e⟩ hx

/-- an offset once returned reads back the same event after any later operations but `rebuild` -/
theorem read_back_forever (s : Store) (hi : Inv s) (x : SEv) (hx : x ∈ s.log) (ops : List Op)
    (hno : NoRebuild ops) : getByOffset (run s ops) x.off = some x.e :=
  getByOffset_of_mem _ (Inv_run s ops hi) x (run_log_mono s ops hno x hx)

/-- a retrievable event is returned, by id, exactly as stored -/
theorem by_id_read_back (s : Store) (hi : Inv s) (x : SEv) (hx : x ∈ s.db.live) :
    getById s x.e.id = some x.e ∧ getByOffset s x.off = some x.e :=
  ⟨getById_of_mem s hi x hx, getByOffset_of_mem s hi x (hi.liveInLog x hx)⟩

/-- the offsets of one map file are 8-aligned, past the header and strictly increasing in append order -/
theorem offsets_distinct (s : Store) (hi : Inv s) :
    s.log.Pairwise (fun a b => a.off < b.off) ∧ ∀ x ∈ s.log, 8 ≤ x.off ∧ x.off % 8 = 0 :=
  ⟨hi.logSorted, fun x hx => ⟨(hi.logBound x hx).1, (hi.logBound x hx).2.1⟩⟩

/-- a store returns an offset beyond every earlier one -/
theorem new_offset_fresh (s : Store) (hi : Inv s) (e : EventRec) (off : Nat)
    (h : (storeEvent s e).1 = .ok off) : ∀ x ∈ s.log, x.off < off := by
  obtain ⟨_, _, rfl, _⟩ := storeEvent_ok s e off h
  exact fun x hx => Nat.lt_of_lt_of_le (hi.off_lt_end x hx) (align8_ge _)

/-- `Event::delineate` on the stored bytes followed by ANY amount of later data (no bound: 4 GiB and more) cuts out
exactly the stored bytes -/
theorem delineate_ignores_what_follows (e : EventRec) (hs : EventSized e) (rest : Bytes) :
    eventDelineate (encodeEvent e ++ rest) = .ok (encodeEvent e) := eventDelineate_encode e hs rest

/-- whatever follows, the length `Event::delineate` reports is the event's own -/
theorem delineate_length_any_total (e : EventRec) (hs : EventSized e) (total : Nat)
    (ht : (encodeEvent e).length ≤ total) :
    eventDelineateLen (encodeEvent e) total = .ok (encodeEvent e).length := by
  have := encodeEvent_length_ge e hs
  have hrd := rd32_encodeEvent e hs []
  rw [List.append_nil] at hrd
  unfold eventDelineateLen
  rw [if_neg (by omega), hrd]
  dsimp only
  rw [if_neg (by omega)]

/-- on a consistent map `EventStore::store_event` (grow and retry; `set_len` sets the length exactly, truncating when smaller)
never fails, returns the 8-aligned old end and advances it by the event's size; the file never shrinks, the padding never
runs out of space -/
theorem map_store (chunk : Nat) (hc : chunk % 8 = 0) (hpos : 0 < chunk) (m : EMap) (hi : EMInv m) (size : Nat) :
    ∃ m', emStore chunk m size = .ok (align8 m.marker, m') ∧ EMInv m' ∧ m'.marker = align8 m.marker + size ∧
      m.fileLen ≤ m'.fileLen := emStore_ok chunk hc hpos m hi size

/-- reopening finds the same end and the real file length, also when the map is full to its last byte -/
theorem map_reopen (chunk : Nat) (m : EMap) (hi : EMInv m) :
    ∃ m', emOpen chunk m.fileLen m.marker = .ok m' ∧ EMInv m' ∧ m'.marker = m.marker ∧ m'.fileLen = m.fileLen :=
  emOpen_existing chunk m.fileLen m.marker hi.hdr hi.marker_le_file hi.al

/-- the exactly-full map reopens unchanged -/
example : emOpen 2048 2048 2048 = .ok ⟨2048, 2048, 2048, 2048⟩ := by decide

theorem reopen_reads (s : Store) : step s .reopen = s := rfl

/-- non-vacuity: a history with a refused store in the middle -/
example :
    let e1 : EventRec := ⟨List.replicate 32 1, List.replicate 32 9, [], 1, 5, [], [104]⟩
    let e2 : EventRec := ⟨List.replicate 32 2, List.replicate 32 9, [], 1, 6, [], []⟩
    let s := run {} [.store e1, .store e1, .store e2]
    getByOffset s 8 = some e1 ∧ getByOffset s 168 = some e2 ∧ s.log.length = 2 := by
  decide +kernel

/-- both `EVENT_MAP_CHUNK`s are multiples of 8, at least the header (`Pocket.map_chunks_from_source`, restated for C04) -/
theorem map_chunks_from_source :
    ∀ c ∈ Src.c_event_store_EVENT_MAP_CHUNK_debug ++ Src.c_event_store_EVENT_MAP_CHUNK_release, c % 8 = 0 ∧ 8 ≤ c :=
  Pocket.map_chunks_from_source

/-- open, padding and one round of growth of the model are those of `event_store.rs` as it reads today
(`Pocket.em_open_from_source`, `em_pad_from_source`, `em_grow_from_source`, restated for C04) -/
theorem event_map_from_source (chunk fileLen marker : Nat) (m : EMap) :
    (emOpen chunk fileLen marker =
      (let len := Src.esInitLen chunk fileLen marker 8 8
       if len < 8 then .err
       else .ok { fileLen := len, marker := if Src.esNew fileLen marker 8 8 then 8 else marker,
                  memLen := Src.esRemembered len, mapLen := len })) ∧
    emPad m = Src.esPad m.marker ∧
    emGrow chunk m =
      { m with fileLen := (Src.esGrow chunk m.fileLen m.mapLen m.memLen).1,
               mapLen := (Src.esGrow chunk m.fileLen m.mapLen m.memLen).2.1,
               memLen := (Src.esGrow chunk m.fileLen m.mapLen m.memLen).2.2 } :=
  ⟨em_open_from_source chunk fileLen marker, em_pad_from_source m, em_grow_from_source chunk m⟩

/-- on the abstract store: an (offset, event) pair once in the log stays in it under store / remove / vanish / reopen -/
theorem spec_log_grows (a : Abs) (op : Op) (hop : op ≠ .rebuild) (x : Nat × EventRec) (hx : x ∈ a.log) : x ∈ (absOp a op).log := by
  cases op with
  | store e =>
    show x ∈ (absStore a e).2.log
    rcases absStore_cases a e with ⟨_, h | h⟩ | ⟨l, di, da, h⟩ <;> rw [h]
    · exact hx
    · exact List.mem_append_left _ hx
    · exact List.mem_append_left _ hx
  | remove id => exact hx
  | vanish pk => exact hx
  | reopen => exact hx
  | rebuild => exact absurd rfl hop

theorem spec_store_logged (a : Abs) (e : EventRec) (off : Nat) (h : (absStore a e).1 = .ok off) : (off, e) ∈ (absStore a e).2.log := by
  rcases absStore_cases a e with ⟨hno, _⟩ | ⟨l, di, da, h'⟩
  · exact absurd h (hno off)
  · rw [h'] at h ⊢
    cases h
    exact List.mem_append_right _ (List.mem_singleton.mpr rfl)

end Pocket.C04
