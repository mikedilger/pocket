import Pocket.Lemmas.FromSourcePreds
import Pocket.Lemmas.FromSourceConsts
import Pocket.Model.Verify
import Pocket.Lemmas.Canon
import Pocket.Spec.Sized
import Pocket.Spec.JsonText
/-
C08 — verification accepts exactly correctly hashed and signed events.
SHA-256 (`H`) and BIP-340 (`SV`) are parameters; what is assumed of them is a hypothesis where it is used.  Strongest:
`verify_iff`, and `field_tamper_detected` over `canon_determines_fields` (the serialization determines the hashed fields).
The last two theorems tie the escaper's constants and `is_safe_char` to the source text of /repo (`lib/srcfacts.py`).
-/
namespace Pocket.C08
open Pocket

/-- `verify` succeeds exactly when the id is the hash of the event's canonical serialization and the signature verifies
over that id under the event's pubkey -/
theorem verify_iff (H : Bytes → Bytes) (SV : Bytes → Bytes → Bytes → Bool) (e : EventRec) :
    verify H SV e = .ok () ↔ ∃ c, canon e = .ok c ∧ e.id = H c ∧ SV e.pubkey e.id e.sig = true := by
  cases hc : canon e with
  | ok c =>
    rw [verify_of_canon H SV e c hc]
    constructor
    · intro h
      split at h
      · rename_i hv; exact ⟨c, rfl, hv.1.symm, hv.2⟩
      · cases h
    · rintro ⟨c', hc', hid, hsv⟩
      cases hc'
      exact if_pos ⟨hid.symm, hsv⟩
  | err => simp [verify, hc]
  | panic => simp [verify, hc]

/-- `verify` does not panic on an event whose tag strings serialize (by `tagsJson_ok`: when they are valid UTF-8) -/
theorem verify_total (H : Bytes → Bytes) (SV : Bytes → Bytes → Bytes → Bool) (e : EventRec)
    (ht : tagsJson e.tags ≠ .panic) : verify H SV e ≠ .panic := by
  cases h : canon e with
  | panic => exact absurd h (canon_ne_panic e ht)
  | err => rw [verify, h]; exact nofun
  | ok c => rw [verify_of_canon H SV e c h]; split <;> exact nofun

/-- every event `sign_new` produces verifies, for any signer whose signatures verify (`SV pk m (sign m)`) -/
theorem signNew_verifies (H : Bytes → Bytes) (SV : Bytes → Bytes → Bytes → Bool) (sign : Bytes → Bytes)
    (pk : Bytes) (hs : ∀ m, SV pk m (sign m) = true) (kind t : Nat) (tags : TagsRec) (content : Bytes)
    (e : EventRec) (h : signNew H sign pk kind t tags content = .ok e) : verify H SV e = .ok () := by
  unfold signNew at h
  dsimp only at h
  split at h
  · rename_i c hc
    cases h
    -- the event signed is the one serialized, with its id and signature filled in
    rw [verify_of_canon H SV _ c ((canon_id_sig ⟨[], pk, [], kind, t, tags, content⟩ (H c) (sign (H c))).trans hc)]
    exact if_pos ⟨rfl, hs _⟩
  · cases h
  · cases h

/-- a verifying event with another id fails -/
theorem id_tamper_detected (H : Bytes → Bytes) (SV : Bytes → Bytes → Bytes → Bool) (e : EventRec)
    (id' : Bytes) (hv : verify H SV e = .ok ()) (hne : id' ≠ e.id) :
    verify H SV { e with id := id' } = .err := by
  obtain ⟨c, hc, hid, _⟩ := (verify_iff H SV e).mp hv
  rw [verify_of_canon H SV _ c ((canon_id_sig e id' e.sig).trans hc)]
  exact if_neg fun h => hne (h.1.symm.trans hid.symm)

/-- a change that changes the canonical serialization is detected, if the hash does not collide on the two serializations
(collision resistance as a hypothesis) -/
theorem content_tamper_detected (H : Bytes → Bytes) (SV : Bytes → Bytes → Bytes → Bool) (e e' : EventRec)
    (c c' : Bytes) (hv : verify H SV e = .ok ()) (hc : canon e = .ok c) (hc' : canon e' = .ok c')
    (hid : e'.id = e.id) (hcol : c ≠ c' → H c ≠ H c') (hdiff : c ≠ c') : verify H SV e' = .err := by
  obtain ⟨c0, hc0, hid0, _⟩ := (verify_iff H SV e).mp hv
  rw [hc] at hc0; cases hc0
  rw [verify_of_canon H SV e' c' hc']
  exact if_neg fun h => hcol hdiff (hid0.symm.trans (hid.symm.trans h.1.symm))

/-- the serialization of a sized UTF-8 event determines pubkey, created_at, kind, tags and content (`canon` is injective;
the model's parsers serve as its inverse) -/
theorem canon_determines_fields (e₁ e₂ : EventRec) (s₁ : EventSized e₁) (s₂ : EventSized e₂)
    (b₁ : ∀ x ∈ e₁.pubkey, x < 256) (b₂ : ∀ x ∈ e₂.pubkey, x < 256)
    (t₁ : TagsUtf8 e₁.tags) (t₂ : TagsUtf8 e₂.tags) (u₁ : IsUtf8 e₁.content) (u₂ : IsUtf8 e₂.content)
    (c : Bytes) (h₁ : canon e₁ = .ok c) (h₂ : canon e₂ = .ok c) :
    e₁.pubkey = e₂.pubkey ∧ e₁.createdAt = e₂.createdAt ∧ e₁.kind = e₂.kind ∧ e₁.tags = e₂.tags ∧
      e₁.content = e₂.content :=
  canon_injective e₁ e₂ s₁ s₂ b₁ b₂ t₁ t₂ u₁ u₂ c h₁ h₂

/-- any change of a hashed field is detected: `e` verifies, `e'` has its id and differs in pubkey, created_at, kind, tags or
content (whatever its sig); if the hash does not collide on the two serializations, `e'` is rejected -/
theorem field_tamper_detected (H : Bytes → Bytes) (SV : Bytes → Bytes → Bytes → Bool) (e e' : EventRec)
    (s : EventSized e) (s' : EventSized e') (b : ∀ x ∈ e.pubkey, x < 256) (b' : ∀ x ∈ e'.pubkey, x < 256)
    (t : TagsUtf8 e.tags) (t' : TagsUtf8 e'.tags) (u : IsUtf8 e.content) (u' : IsUtf8 e'.content)
    (hv : verify H SV e = .ok ()) (hid : e'.id = e.id)
    (hdiff : e'.pubkey ≠ e.pubkey ∨ e'.createdAt ≠ e.createdAt ∨ e'.kind ≠ e.kind ∨ e'.tags ≠ e.tags ∨
      e'.content ≠ e.content)
    (hcol : ∀ c c', canon e = .ok c → canon e' = .ok c' → c ≠ c' → H c ≠ H c') :
    verify H SV e' = .err := by
  obtain ⟨c, hc, _, _⟩ := (verify_iff H SV e).mp hv
  obtain ⟨c', hc'⟩ := canon_ok e' t' u'
  refine content_tamper_detected H SV e e' c c' hv hc hc' hid (hcol c c' hc hc') fun heq => ?_
  -- equal serializations would mean equal hashed fields
  subst heq
  obtain ⟨h1, h2, h3, h4, h5⟩ := canon_injective e e' s s' b b' t t' u u' c hc hc'
  rcases hdiff with h | h | h | h | h
  · exact h h1.symm
  · exact h h2.symm
  · exact h h3.symm
  · exact h h4.symm
  · exact h h5.symm

/-- the model escapes the named characters of `json_escape.rs` as the source names them -/
theorem escape_constants_from_source :
    (∀ q ∈ Src.c_json_escape_BACKSLASH, ∀ c ∈ Src.c_json_escape_BACKSPACE, escapePiece c = some [q, 98]) ∧
    (∀ q ∈ Src.c_json_escape_BACKSLASH, ∀ c ∈ Src.c_json_escape_TAB, escapePiece c = some [q, 116]) ∧
    (∀ q ∈ Src.c_json_escape_BACKSLASH, ∀ c ∈ Src.c_json_escape_LINEFEED, escapePiece c = some [q, 110]) ∧
    (∀ q ∈ Src.c_json_escape_BACKSLASH, ∀ c ∈ Src.c_json_escape_FORMFEED, escapePiece c = some [q, 102]) ∧
    (∀ q ∈ Src.c_json_escape_BACKSLASH, ∀ c ∈ Src.c_json_escape_CR, escapePiece c = some [q, 114]) ∧
    (∀ q ∈ Src.c_json_escape_BACKSLASH, ∀ c ∈ Src.c_json_escape_QUOTE, escapePiece c = some [q, c]) ∧
    (∀ q ∈ Src.c_json_escape_BACKSLASH, escapePiece q = some [q, q]) := Pocket.escape_constants_from_source

/-- the characters `json_escape` copies unescaped are those of the source's `is_safe_char` -/
theorem safe_char_from_source (c : Nat) : Src.isSafeChar c = isSafeChar c := Pocket.safe_char_from_source c

end Pocket.C08
