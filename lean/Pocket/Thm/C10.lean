import Pocket.Lemmas.RefineRun
import Pocket.Lemmas.StoreDel
import Pocket.Spec.AbsStore
import Pocket.Spec.StoreInv
/-
C10 — a deletion request can never remove another author's events.
Stated for *every* stored event, not only kind 5, whatever the call returns.  Victims are retrievable events: an id under
which nothing is stored can be marked by anyone (the code's choice, outside the property), hence `v ∈ s.db.live` in
`no_marker_on_foreign_event`.
Not stated: that a request naming a retrievable foreign event is answered `InvalidDelete` (the example is one; that a
failed store changes nothing observable is C12).  `spec_foreign_history_harmless` is the property on the abstract store.
-/
namespace Pocket.C10
open Pocket

/-- an event submitted by one key leaves every retrievable event of a different key retrievable -/
theorem foreign_delete_harmless (s : Store) (hi : Inv s) (req : EventRec) (v : SEv)
    (hv : v ∈ s.db.live) (hpk : v.e.pubkey ≠ req.pubkey) :
    v ∈ (storeEvent s req).2.db.live ∧ getById (storeEvent s req).2 v.e.id = some v.e := by
  have h1 := storeEvent_keeps_foreign s hi req v hv hpk
  exact ⟨h1, getById_of_mem _ (Inv_storeEvent s req hi) v h1⟩

/-- an event submitted by one key leaves no id marker on a retrievable event of a different key -/
theorem no_marker_on_foreign_event (s : Store) (hi : Inv s) (req : EventRec) (v : SEv)
    (hv : v ∈ s.db.live) (hpk : v.e.pubkey ≠ req.pubkey) (hnot : v.e.id ∉ s.db.delIds) :
    v.e.id ∉ (storeEvent s req).2.db.delIds := by
  intro hin
  rcases (storeEvent_markers s req).newIds _ hin with h | h
  · exact hnot h
  · exact hpk (h v (findById_of_mem _ v hi.liveIds hv))

/-- an event submitted by one key leaves the address markers of every other author as they were -/
theorem no_marker_on_foreign_address (s : Store) (hi : Inv s) (req : EventRec) (k : Nat) (a d : Bytes)
    (ha : a ≠ req.pubkey) :
    delAddrGet (storeEvent s req).2.db.delAddrs (k, a, d) = delAddrGet s.db.delAddrs (k, a, d) :=
  (storeEvent_markers s req).foreign k a d ha

/-- a retrievable event stays retrievable through any sequence of events submitted by *other* keys -/
theorem foreign_history_harmless (s : Store) (hi : Inv s) (v : SEv) (hv : v ∈ s.db.live)
    (reqs : List EventRec) (hall : ∀ r ∈ reqs, r.pubkey ≠ v.e.pubkey) :
    v ∈ (run s (reqs.map Op.store)).db.live :=
  (run_induct (fun s => Inv s ∧ v ∈ s.db.live) _
    (fun s op hop ⟨hi, hv⟩ => by
      obtain ⟨r, hr, rfl⟩ := List.mem_map.mp hop
      exact ⟨Inv_storeEvent s r hi, storeEvent_keeps_foreign s hi r v hv fun h => hall r hr h.symm⟩) s ⟨hi, hv⟩).2

/-- non-vacuity: a request naming a foreign event after an own one is refused as a whole; both events stay -/
example :
    let a := List.replicate 32 10
    let b := List.replicate 32 11
    let e1 : EventRec := ⟨List.replicate 32 1, a, [], 1, 5, [], []⟩
    let e2 : EventRec := ⟨List.replicate 32 2, b, [], 30000, 5, [[[100], [120]]], []⟩
    let req : EventRec := ⟨List.replicate 32 3, a, [], 5, 9,
      [[[101], hexOf (List.replicate 32 1)], [[97], [51, 48, 48, 48, 48, 58] ++ hexOf b ++ [58, 120]]], []⟩
    let s := run {} [.store e1, .store e2]
    (storeEvent s req).1 = .invalidDelete ∧ ((storeEvent s req).2.db.live.map (·.e.id)).length = 2 := by
  decide +kernel

/-- an event retrievable in the abstract store (`Spec/AbsStore.lean`) after any history stays retrievable through every
continuation of events, deletion requests included, signed by OTHER keys (bounds as in `C09.spec_one_per_address`) -/
theorem spec_foreign_history_harmless (pre : List Op) (reqs : List EventRec) (v : EventRec)
    (ht : ∀ op ∈ pre ++ reqs.map Op.store, opTimeOk op) (hlen : (pre ++ reqs.map Op.store).length < U32MAX)
    (hv : v ∈ (pre.foldl absOp {}).live) (hall : ∀ r ∈ reqs, r.pubkey ≠ v.pubkey) :
    v ∈ ((pre ++ reqs.map Op.store).foldl absOp {}).live := by
  rw [abs_run pre (fun op h => ht op (List.mem_append_left _ h))
    (by simp only [List.length_append] at hlen; omega)] at hv
  rw [abs_run _ ht hlen]
  obtain ⟨x, hx, rfl⟩ := List.mem_map.mp hv
  refine List.mem_map.mpr ⟨x, ?_, rfl⟩
  rw [run_append]
  exact foreign_history_harmless (run {} pre) (Inv_run {} pre Inv_init) x hx reqs hall

end Pocket.C10
