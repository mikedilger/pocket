import Pocket.Lemmas.FromSourceLayout
import Pocket.Lemmas.FromSourceConsts
import Pocket.Lemmas.Layout
import Pocket.Lemmas.Outcome
import Pocket.Spec.Sized
import Pocket.Spec.SrcLayout
/-
C19 — a constructor yields a faithful, well-formed value or an error: it never truncates and never panics.

`tagsFromParts`, `eventFromRec`, `filterFromRec` model `Tags::from_parts` and `OwnedTags::new` followed by `Event::from_parts` /
`Filter::from_parts`; `tagsDecode`, `eventDecode`, `filterDecode` the accessors and iterators of the value.  Each `*_faithful` theorem
joins the constructor's one equation (`*_eq`: what it refuses, what it writes otherwise) with decode ∘ encode (`Lemmas/Layout.lean`);
each `*_err` and `*_never_panics` is the equation read at one refusal.  The second half ties the layout to the source text.

Not proved: what `Tags::get_string` (`getString`) returns on a written section; `Filter::delineate` on a written filter; that the
accessors of `Filter` read where `filterDecode` reads (only the offset constants are compared, `filter_layout_from_source`).
-/
namespace Pocket.C19
open Pocket

/-- what the Rust types guarantee about the fixed-width parts of an event -/
structure EventTyped (e : EventRec) : Prop where
  id : e.id.length = 32
  pk : e.pubkey.length = 32
  sig : e.sig.length = 64
  kind : e.kind < 65536
  t : e.createdAt < 18446744073709551616

structure FilterTyped (f : FilterRec) : Prop where
  ids : ∀ x ∈ f.ids, x.length = 32
  authors : ∀ x ∈ f.authors, x.length = 32
  kinds : ∀ k ∈ f.kinds, k < 65536
  since : f.since < 18446744073709551616
  «until» : f.until < 18446744073709551616
  limit : f.limit < 4294967296

/-- on success the accessors return exactly the parts, the value is `tagsSize` bytes long and the rest of the buffer is untouched -/
theorem tags_faithful (ts : TagsRec) (buf out : Bytes) (h : tagsFromParts ts buf = .ok out) :
    tagsDecode (out.take (tagsSize ts)) = .ok ts ∧
    tagsDelineate out = .ok (out.take (tagsSize ts)) ∧
    out.drop (tagsSize ts) = buf.drop (tagsSize ts) ∧ out.length = buf.length := by
  rw [tagsFromParts_eq] at h
  obtain ⟨hn, rfl⟩ := ite_err_eq_ok.mp h
  obtain ⟨hfit, hbuf⟩ : tagsSize ts ≤ 65535 ∧ tagsSize ts ≤ buf.length := by simpa only [not_or, gt_iff_lt, Nat.not_lt] using hn
  obtain ⟨e1, e2, e3⟩ := written_prefix _ buf _ (encodeTags_length ts) hbuf
  rw [e1, e2, e3]
  exact ⟨tagsDecode_encode ts hfit, tagsDelineate_encode ts hfit _, rfl, rfl⟩

/-- a section beyond the `u16` length fields is refused, whatever the buffer -/
theorem tags_too_big_err (ts : TagsRec) (buf : Bytes) (h : tagsSize ts > 65535) :
    tagsFromParts ts buf = .err := by
  rw [tagsFromParts_eq, if_pos (Or.inl h)]

/-- a buffer that is too small is an error -/
theorem tags_small_buffer_err (ts : TagsRec) (buf : Bytes) (h : buf.length < tagsSize ts) :
    tagsFromParts ts buf = .err := by
  rw [tagsFromParts_eq, if_pos (Or.inr h)]

theorem tags_never_panics (ts : TagsRec) (buf : Bytes) : tagsFromParts ts buf ≠ .panic := by
  rw [tagsFromParts_eq]; split <;> exact fun h => nomatch h

/-- more than 65,535 tags cannot fit -/
theorem tags_count_too_big_err (ts : TagsRec) (buf : Bytes) (h : ts.length > 65535) :
    tagsFromParts ts buf = .err :=
  tags_too_big_err ts buf (by unfold tagsSize; omega)

theorem event_faithful (e : EventRec) (ht : EventTyped e) (buf out : Bytes)
    (h : eventFromRec e buf = .ok out) :
    let n := eventSize (tagsSize e.tags) e.content.length
    eventDecode (out.take n) = .ok e ∧ eventDelineate out = .ok (out.take n) ∧
    out.drop n = buf.drop n ∧ out.length = buf.length := by
  intro n
  rw [eventFromRec_eq] at h
  obtain ⟨hn, rfl⟩ := ite_err_eq_ok.mp h
  -- none of the refusals applied
  simp only [not_or, gt_iff_lt, Nat.not_lt] at hn
  obtain ⟨htags, hsize, hbuf⟩ := hn
  have hs : EventSized e := ⟨ht.id, ht.pk, ht.sig, ht.kind, ht.t, htags, hsize⟩
  obtain ⟨e1, e2, e3⟩ := written_prefix _ buf n (encodeEvent_length e hs) hbuf
  rw [e1, e2, e3]
  exact ⟨eventDecode_encode e hs, eventDelineate_encode e hs _, rfl, rfl⟩

theorem event_tags_too_big_err (e : EventRec) (buf : Bytes) (h : tagsSize e.tags > 65535) :
    eventFromRec e buf = .err := by
  rw [eventFromRec_eq, if_pos (Or.inl h)]

theorem event_too_big_err (e : EventRec) (buf : Bytes)
    (h : eventSize (tagsSize e.tags) e.content.length > 4294967295) : eventFromRec e buf = .err := by
  rw [eventFromRec_eq, if_pos (Or.inr (Or.inl h))]

theorem event_small_buffer_err (e : EventRec) (buf : Bytes)
    (h : buf.length < eventSize (tagsSize e.tags) e.content.length) : eventFromRec e buf = .err := by
  rw [eventFromRec_eq, if_pos (Or.inr (Or.inr h))]

theorem event_never_panics (e : EventRec) (buf : Bytes) : eventFromRec e buf ≠ .panic := by
  rw [eventFromRec_eq]; split <;> exact fun h => nomatch h

theorem filter_faithful (f : FilterRec) (ht : FilterTyped f) (buf out : Bytes)
    (h : filterFromRec f buf = .ok out) :
    let n := filterSize f.ids.length f.authors.length f.kinds.length (tagsSize f.tags)
    filterDecode (out.take n) = .ok f ∧ out.drop n = buf.drop n ∧ out.length = buf.length := by
  intro n
  rw [filterFromRec_eq] at h
  obtain ⟨hn, rfl⟩ := ite_err_eq_ok.mp h
  simp only [not_or, gt_iff_lt, Nat.not_lt] at hn
  obtain ⟨htags, ⟨hni, hna, hnk⟩, -, hbuf⟩ := hn
  have hs : FilterSized f := ⟨ht.ids, ht.authors, ht.kinds, hni, hna, hnk, htags, ht.since, ht.until, ht.limit⟩
  obtain ⟨e1, e2, e3⟩ := written_prefix _ buf n (encodeFilter_length f hs) hbuf
  rw [e1, e2, e3]
  exact ⟨filterDecode_encode f hs, rfl, rfl⟩

theorem filter_counts_too_big_err (f : FilterRec) (buf : Bytes)
    (h : f.ids.length > 65535 ∨ f.authors.length > 65535 ∨ f.kinds.length > 65535) :
    filterFromRec f buf = .err := by
  rw [filterFromRec_eq, if_pos (Or.inr (Or.inl h))]

theorem filter_tags_too_big_err (f : FilterRec) (buf : Bytes) (h : tagsSize f.tags > 65535) :
    filterFromRec f buf = .err := by
  rw [filterFromRec_eq, if_pos (Or.inl h)]

theorem filter_small_buffer_err (f : FilterRec) (buf : Bytes)
    (h : buf.length < filterSize f.ids.length f.authors.length f.kinds.length (tagsSize f.tags)) :
    filterFromRec f buf = .err := by
  rw [filterFromRec_eq, if_pos (Or.inr (Or.inr (Or.inr h)))]

theorem filter_never_panics (f : FilterRec) (buf : Bytes) : filterFromRec f buf ≠ .panic := by
  rw [filterFromRec_eq]; split <;> exact fun h => nomatch h

/-- non-vacuity: an event with an empty tag, an empty string and a multi-string tag is accepted into an exactly-sized buffer and
decodes to itself -/
example :
    let e : EventRec := ⟨List.replicate 32 1, List.replicate 32 2, List.replicate 64 3, 30000, 7,
      [[], [[]], [[100], [120, 0], []]], [104, 105]⟩
    (eventFromRec e (List.replicate 180 170)).isOk = true ∧ eventDecode (encodeEvent e) = .ok e := by
  decide +kernel

/-- `encode_utf8`'s length classes and tag bytes, as `utf8.rs` names them, are the model's (`Pocket.utf8_constants_from_source`, for
property C19) -/
theorem utf8_constants_from_source :
    (∀ m ∈ Src.c_utf8_MAX_ONE_B, (utf8Bytes (m - 1)).length = 1 ∧ ∀ t ∈ Src.c_utf8_TAG_TWO_B, ∀ c ∈ Src.c_utf8_TAG_CONT, utf8Bytes m = [t + 2, c]) ∧
    (∀ m ∈ Src.c_utf8_MAX_TWO_B, (utf8Bytes (m - 1)).length = 2 ∧ ∀ t ∈ Src.c_utf8_TAG_THREE_B, ∀ c ∈ Src.c_utf8_TAG_CONT, utf8Bytes m = [t, c + 32, c]) ∧
    (∀ m ∈ Src.c_utf8_MAX_THREE_B, (utf8Bytes (m - 1)).length = 3 ∧ ∀ t ∈ Src.c_utf8_TAG_FOUR_B, ∀ c ∈ Src.c_utf8_TAG_CONT, utf8Bytes m = [t, c + 16, c, c]) ∧
    Src.c_utf8_CONT_MASK = [63] := Pocket.utf8_constants_from_source

/-- what `event.rs` writes and where it reads is the model's layout (`Pocket.event_writer_from_source`, `event_size_from_source`,
`event_readers_from_source`; for property C19) -/
theorem event_layout_from_source (id pk sig : Bytes) (kind t : Nat) (tagBytes content b : Bytes) :
    Src.encodeEventWith id pk sig kind t tagBytes content = encodeEventWith id pk sig kind t tagBytes content ∧
    Src.eventSize tagBytes.length content.length = eventSize tagBytes.length content.length ∧
    eventDecodeAt Src.evReads b = eventDecode b :=
  ⟨event_writer_from_source id pk sig kind t tagBytes content, rfl, event_readers_from_source b⟩

/-- size, refusals, header and read offsets of `tags.rs` are the model's (`Pocket.tags_size_from_source`,
`tags_from_parts_from_source`, `tag_readers_from_source`; for property C19) -/
theorem tags_layout_from_source (ts : TagsRec) (buf inp : Bytes) :
    Src.tagsSize ts = tagsSize ts ∧
    (tagsFromParts ts buf =
      if Src.tagsRejects (Src.tagsSize ts) buf.length then .err
      else .ok (Src.tagsHeader (Src.tagsSize ts) ts.length ++ encOffsets (Src.tagsBodyStart ts.length) ts ++ encTagsBody ts
                ++ buf.drop (Src.tagsSize ts))) ∧
    tagsReadAt Src.tagReads inp =
      (match tagsDelineate inp with
       | .ok sec => .ok (sec, tagsDecode sec)
       | .err => .err
       | .panic => .panic) :=
  ⟨tags_size_from_source ts, tags_from_parts_from_source ts buf, tag_readers_from_source inp⟩

/-- `Tags::from_parts` with its write loops is the model's `tagsFromParts` (`Pocket.tags_from_parts_whole_from_source`,
`tags_writer_from_source`; for property C19) -/
theorem tags_writer_from_source (ts : TagsRec) (buf : Bytes) :
    (tagsFromParts ts buf = if Src.tagsRejects (Src.tagsSize ts) buf.length then .err else .ok (Src.tagsWrite ts buf)) ∧
    (tagsSize ts ≤ buf.length → Src.tagsWrite ts buf = encodeTags ts ++ buf.drop (tagsSize ts)) :=
  ⟨Pocket.tags_from_parts_whole_from_source ts buf, Pocket.tags_writer_from_source ts buf⟩

/-- the header `Filter::from_parts` writes, absent options as their defaults, heads the model's encoding
(`Pocket.filter_header_from_source`, `filter_defaults_from_source`; for property C19) -/
theorem filter_header_from_source (ids authors : List Bytes) (kinds : List Nat) (tagBytes : Bytes) (since «until» limit : Nat) (size a b c : Nat) :
    encodeFilterWith ids authors kinds tagBytes since «until» limit =
      Src.filterHeader (filterSize ids.length authors.length kinds.length tagBytes.length) ids.length authors.length kinds.length
        (some limit) (some since) (some «until») ++ (flat32 ids ++ flat32 authors ++ flatKinds kinds ++ tagBytes) ∧
    Src.filterHeader size a b c none none none = Src.filterHeader size a b c (some U32MAX) (some 0) (some U64MAX) :=
  ⟨Pocket.filter_header_from_source ids authors kinds tagBytes since «until» limit, filter_defaults_from_source size a b c⟩

/-- behind the 32-byte header the copy loops of `Filter::from_parts` complete the model's encoding (`Pocket.filter_writer_from_source`, for
property C19) -/
theorem filter_arrays_from_source (ids authors : List Bytes) (kinds : List Nat) (tagBytes Y : Bytes) (since «until» limit : Nat)
    (hi : ∀ x ∈ ids, x.length = 32) (ha : ∀ x ∈ authors, x.length = 32) :
    Src.filterArraysWrite ids authors kinds tagBytes
        (Src.filterHeader (filterSize ids.length authors.length kinds.length tagBytes.length) ids.length authors.length kinds.length
          (some limit) (some since) (some «until») ++ Y) =
      encodeFilterWith ids authors kinds tagBytes since «until» limit ++
        Y.drop (32 * ids.length + 32 * authors.length + 2 * kinds.length + tagBytes.length) :=
  filter_writer_from_source ids authors kinds tagBytes Y since «until» limit hi ha

/-- `Event::from_parts` and `Filter::from_parts` refuse exactly when the model does (`Pocket.event_rejections_from_source`,
`filter_rejections_from_source`; for property C19) -/
theorem rejections_from_source (id pk sig : Bytes) (kind t : Nat) (tagBytes content buf : Bytes)
    (ids authors : List Bytes) (kinds : List Nat) (since «until» limit : Nat) :
    (eventFromParts id pk sig kind t tagBytes content buf =
      if Src.eventRejects (Src.eventSize tagBytes.length content.length) buf.length then .err
      else .ok (Src.encodeEventWith id pk sig kind t tagBytes content ++ buf.drop (Src.eventSize tagBytes.length content.length))) ∧
    (filterFromParts ids authors kinds tagBytes since «until» limit buf =
      if Src.filterRejects ids.length authors.length kinds.length (filterSize ids.length authors.length kinds.length tagBytes.length) buf.length
      then .err
      else .ok (encodeFilterWith ids authors kinds tagBytes since «until» limit ++
                buf.drop (filterSize ids.length authors.length kinds.length tagBytes.length))) :=
  ⟨event_rejections_from_source id pk sig kind t tagBytes content buf,
   filter_rejections_from_source ids authors kinds tagBytes since «until» limit buf⟩

end Pocket.C19
