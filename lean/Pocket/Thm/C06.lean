import Pocket.Lemmas.Match
import Pocket.Spec.Match
/-
C06 — `Filter::event_matches` is NIP-01 matching (`matchesSpec`, `Spec/Match.lean`) for every filter whose tag constraints are
named.  An unnamed constraint, which only `from_parts` can build, is excluded: there the code differs
(`unnamed_constraint_witness`).
-/
namespace Pocket.C06
open Pocket

/-- C06: `event_matches` is true exactly when NIP-01 says so -/
theorem eventMatches_iff_spec (f : FilterRec) (e : EventRec) (hn : TagsNamed f) :
    eventMatches f e = true ↔ matchesSpec f e := eventMatches_iff f e hn

/-- the byte-level form returns `ok` whenever both operands decode -/
theorem eventMatchesB_ok (fb eb : Bytes) (f : FilterRec) (e : EventRec)
    (hf : filterDecode fb = .ok f) (he : eventDecode eb = .ok e) :
    eventMatchesB fb eb = .ok (eventMatches f e) := by
  simp [eventMatchesB, hf, he]

/-- non-vacuity: a two-valued named constraint and an event that satisfies it -/
example :
    let f : FilterRec := ⟨[], [[1]], [1, 7], [[[116], [97], [98]]], 5, 10, 3⟩
    let e : EventRec := ⟨[9], [1], [], 7, 10, [[[116], [98], [99]]], []⟩
    TagsNamed f ∧ eventMatches f e = true := by
  refine ⟨?_, by decide⟩
  intro c hc; simp at hc; subst hc; simp

/-- an unnamed constraint ends the scan, hiding a later unmet constraint (the check runs it on the real code as well) -/
theorem unnamed_constraint_witness :
    let f : FilterRec := ⟨[], [], [], [[], [[116], [97]]], 0, U64MAX, U32MAX⟩
    let e : EventRec := ⟨[9], [1], [], 7, 10, [[[120], [98]]], []⟩
    eventMatches f e = true ∧ ¬ matchesSpec f e := by
  refine ⟨by decide, ?_⟩
  intro h
  have := h.2.2.2.2.2 [] (by simp)
  simp at this

end Pocket.C06
