import Pocket.Lemmas.FromSourceKeys
import Pocket.Lemmas.FromSourceConsts
import Pocket.Thm.C05
import Pocket.Spec.StoreInv
import Pocket.Spec.IndexKeys
/-
C17 — every access path agrees and index accounting never leaks.

In the model the seven index tables are functions of the set of indexed events (`live`).  That `Lmdb::index` and
`Lmdb::deindex` add and remove all of an event's entries together is `index_walk_from_source`, for the source text of every
check run (`Pocket/Src/`, from `lib/srcfacts.py`, as for padding and keys); that the real tables hold exactly these entries is
what the correspondence check compares (key dump and entry counts after every step).
-/
namespace Pocket.C17
open Pocket

theorem unretrievable_not_found (live : List SEv) (f : FilterRec) (allow : Bool) (l secs now : Nat)
    (scr : EventRec → Screen) (out : List SEv) (red : Bool)
    (h : findEvents live f allow l secs now scr = .ok out red) (x : SEv) (hx : x ∉ live) : x ∉ out :=
  fun hin => hx ((C05.findEvents_sound live f allow l secs now scr out red h).1 x hin).1

/-- a retrievable event is what the filter made of its own id returns -/
theorem self_findable_by_id (s : Store) (hi : Inv s) (x : SEv) (hx : x ∈ s.db.live)
    (ht : x.e.createdAt ≤ U64MAX) (allow : Bool) (l secs now : Nat) :
    findEvents s.db.live ⟨[x.e.id], [], [], [], 0, U64MAX, U32MAX⟩ allow l secs now (fun _ => .match)
      = .ok [x] false := by
  have hf := findById_of_mem _ x hi.liveIds hx
  have hm : eventMatches ⟨[x.e.id], [], [], [], 0, U64MAX, U32MAX⟩ x.e = true :=
    (C06.eventMatches_iff_spec _ _ fun _ hc => (List.not_mem_nil hc).elim).mpr
      ⟨.inr (List.mem_singleton.mpr rfl), .inl rfl, .inl rfl, Nat.zero_le _, ht, fun _ hc => (List.not_mem_nil hc).elim⟩
  unfold findEvents findState
  simp only [List.isEmpty_cons, Bool.not_false, if_true, planIds, hf, accept, hm, insertOut,
    List.any_nil, Bool.false_eq_true, if_false, List.nil_append]
  simp [sortOut, insertOutSorted, U32MAX]

/-- the id, time, author and author-kind indexes are not counted: in the model they hold one entry per indexed event -/
theorem empty_means_zero : tagEntryCount [] = 0 := rfl

/-- an event appended to the index adds exactly its distinct tag keys -/
theorem tag_entries_of_live (live : List SEv) (x : SEv) :
    tagEntryCount (live ++ [x]) = tagEntryCount live + (tagKeys x.e).length := by
  unfold tagEntryCount
  rw [List.foldl_append]; rfl

/-- every access path agrees: in a reachable state a retrievable event is returned by every NIP-01 filter its own fields satisfy
(its `limit` above the number of retrievable events), whichever of the seven plans the filter selects -/
theorem self_findable (ops : List Op) (x : SEv) (hx : x ∈ (run {} ops).db.live) (f : FilterRec)
    (hsl : SingleLetter f) (hm : eventMatches f x.e = true)
    (hnl : (run {} ops).db.live.length < f.limit) (allow : Bool) (l secs now : Nat) (out : List SEv) (red : Bool)
    (h : findEvents (run {} ops).db.live f allow l secs now (fun _ => .match) = .ok out red) : x ∈ out :=
  (C05.findEvents_exact ops f hsl allow l secs now _ out red hnl h x).mpr ⟨hx, hm, rfl⟩

/-- `PADLEN` in `lmdb/mod.rs` is the model's 182 (`Pocket.index_padding_from_source`, restated for property C17) -/
theorem index_padding_from_source (v : Bytes) : ∀ p ∈ Src.c_lmdb_PADLEN, (pad182 v).length = p := Pocket.index_padding_from_source v

/-- the six `key_*_index` builders of `lmdb/mod.rs` build the model's keys (`Pocket.keys_from_source`, restated for property C17) -/
theorem keys_from_source (author value id : Bytes) (kind letter t : Nat) :
    Src.keyCi t id = keyCi t id ∧ Src.keyAc author t id = keyAc author t id ∧ Src.keyAkc author kind t id = keyAkc author kind t id ∧
    Src.keyTc letter value t id = keyTc letter value t id ∧ Src.keyAtc author letter value t id = keyAtc author letter value t id ∧
    Src.keyKtc kind letter value t id = keyKtc kind letter value t id := Pocket.keys_from_source author value id kind letter t

/-- `Lmdb::index` puts and `Lmdb::deindex` deletes the same (table, key) pairs for an event, those of the model's `eventKeys`
(`Pocket.index_walk_from_source`, restated for property C17) -/
theorem index_walk_from_source (e : EventRec) (tk : String × Bytes) :
    (tk ∈ Src.indexKeys e ↔ tk ∈ eventKeys e) ∧ (tk ∈ Src.deindexKeys e ↔ tk ∈ eventKeys e) :=
  Pocket.index_walk_from_source e tk

end Pocket.C17
