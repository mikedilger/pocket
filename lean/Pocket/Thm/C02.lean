import Pocket.Lemmas.FromSourceLayout
import Pocket.Lemmas.FromSourcePreds
import Pocket.Lemmas.FromSourceConsts
import Pocket.Lemmas.ParseWF
import Pocket.Lemmas.RoundTrip
import Pocket.Lemmas.EventUnknown
import Pocket.Thm.C01
import Pocket.Spec.Sized
import Pocket.Spec.JsonText
import Pocket.Spec.EventText
import Pocket.Spec.SrcLayout
/-
C02 — the binary form is canonical; the round trip is lossless.

Strongest: `canonical_any_spelling` (the texts are those of C01); `round_trip` is its case for the text `as_json` writes.
`from_json_is_from_parts` and `canonical_any_buffer` say of every accepted text that each byte of the value, padding included, is
determined by the seven values and not by the buffer's prior contents.  Not proved, as in C01: surrogate-pair escapes (legal JSON,
refused by the code), upper-case hex, duplicate members.  The last five theorems tie the escaper and the layout to the source text.
-/
namespace Pocket.C02
open Pocket

/-- `from_json` writes exactly what `from_parts` writes from the values the accessors return -/
theorem from_json_is_from_parts (inp buf : Bytes) (c n : Nat) (out : Bytes)
    (h : parseEvent inp buf = .ok (c, n, out)) :
    ∃ e, eventDecode (out.take n) = .ok e ∧ eventFromRec e buf = .ok out := by
  obtain ⟨e, hs, hout, hn, hnb, _⟩ := parseEvent_wf inp buf c n out h
  rw [hout, hn]  -- not `subst`: it would bring the encoding to weak head normal form
  refine ⟨e, eventDecode_take e hs _, ?_⟩
  rw [hn, encodeEvent_length e hs] at hnb
  -- none of the three refusals applies: the tags fit, the event fits, the buffer held it
  rw [eventFromRec_eq, if_neg (not_or.2 ⟨Nat.not_lt.2 hs.tags, not_or.2 ⟨Nat.not_lt.2 hs.content, Nat.not_lt.2 hnb⟩⟩),
    encodeEvent_length e hs]

/-- two accepted texts, whatever their spelling and the buffers' prior contents: if the accessors return the same seven values, the
binary events are byte-identical -/
theorem canonical_any_buffer (inp₁ inp₂ buf₁ buf₂ : Bytes) (c₁ c₂ n₁ n₂ : Nat) (out₁ out₂ : Bytes)
    (h₁ : parseEvent inp₁ buf₁ = .ok (c₁, n₁, out₁)) (h₂ : parseEvent inp₂ buf₂ = .ok (c₂, n₂, out₂))
    (hv : eventDecode (out₁.take n₁) = eventDecode (out₂.take n₂)) :
    out₁.take n₁ = out₂.take n₂ := by
  obtain ⟨e₁, hs₁, ho₁, hn₁, _, _⟩ := parseEvent_wf _ _ _ _ _ h₁
  obtain ⟨e₂, hs₂, ho₂, hn₂, _, _⟩ := parseEvent_wf _ _ _ _ _ h₂
  -- not `subst`: it would bring the encodings to weak head normal form
  rw [ho₁, ho₂, List.take_left' hn₁.symm, List.take_left' hn₂.symm] at hv ⊢
  rw [eventDecode_encode e₁ hs₁, eventDecode_encode e₂ hs₂] at hv
  cases hv; rfl

/-- `as_json` returns a value or an error, never panics, when the tag strings escape without error: in particular (`tagsJson_ok`)
when they are UTF-8 -/
theorem serialize_total_on_valid (e : EventRec) (h : tagsJson e.tags ≠ .panic) :
    eventJson e ≠ .panic := by
  cases h1 : tagsJson e.tags with
  | panic => exact absurd h1 h
  | err => rw [eventJson, h1]; exact nofun
  | ok tj =>
    cases h2 : jsonEscape e.content with
    | panic => exact absurd h2 (jsonEscape_all _).ne_panic
    | err => rw [eventJson, h1, h2]; exact nofun
    | ok ec => rw [eventJson, h1, h2]; exact nofun

/-- `json_unescape ∘ json_escape = id` on the UTF-8 of any code points, into any buffer that holds them, consuming exactly the
escaped text -/
theorem unescape_escape_id (cps : List Nat) (hc : ∀ c ∈ cps, c < 1114112) (rest : Bytes) (cap : Nat)
    (hcap : (utf8Of cps).length ≤ cap) :
    ∃ t, jsonEscape (utf8Of cps) = .ok t ∧
      jsonUnescape (t ++ 34 :: rest) cap = .ok (t.length, utf8Of cps) :=
  ⟨escText cps, jsonEscape_utf8 cps hc, jsonUnescape_spells _ _ rest cap ⟨cps, escText_spelled cps hc, rfl⟩ hcap⟩

/-- distinct UTF-8 strings have distinct escaped texts -/
theorem escape_injective (a b : List Nat) (ha : ∀ c ∈ a, c < 1114112) (hb : ∀ c ∈ b, c < 1114112)
    (ta tb : Bytes) (h1 : jsonEscape (utf8Of a) = .ok ta) (h2 : jsonEscape (utf8Of b) = .ok tb)
    (h : ta = tb) : utf8Of a = utf8Of b :=
  jsonEscape_injective _ _ tb ⟨a, ha, rfl⟩ ⟨b, hb, rfl⟩ (h ▸ h1) h2

/-- `from_json (as_json e) = from_parts e`, byte for byte, consuming exactly the text, whatever follows it, into any sufficient buffer -/
theorem round_trip (e : EventRec) (hs : EventSized e)
    (hbid : ∀ b ∈ e.id, b < 256) (hbpk : ∀ b ∈ e.pubkey, b < 256) (hbsig : ∀ b ∈ e.sig, b < 256)
    (hut : TagsUtf8 e.tags) (huc : IsUtf8 e.content) (rest buf : Bytes)
    (hbuf : (encodeEvent e).length ≤ buf.length) :
    ∃ txt, eventJson e = .ok txt ∧
      parseEvent (txt ++ rest) buf =
        .ok (txt.length, (encodeEvent e).length, encodeEvent e ++ buf.drop (encodeEvent e).length) :=
  parseEvent_eventJson e hs hbid hbpk hbsig hut huc rest buf hbuf

/-- the accessors of `from_json (as_json e)` return `e` -/
theorem round_trip_values (e : EventRec) (hs : EventSized e)
    (hbid : ∀ b ∈ e.id, b < 256) (hbpk : ∀ b ∈ e.pubkey, b < 256) (hbsig : ∀ b ∈ e.sig, b < 256)
    (hut : TagsUtf8 e.tags) (huc : IsUtf8 e.content) (rest buf : Bytes)
    (hbuf : (encodeEvent e).length ≤ buf.length) :
    ∃ txt c n out, eventJson e = .ok txt ∧ parseEvent (txt ++ rest) buf = .ok (c, n, out) ∧
      c = txt.length ∧ eventDecode (out.take n) = .ok e :=
  C01.canonical_text_faithful e hs hbid hbpk hbsig hut huc rest buf hbuf

/-- the same event written twice, each time in any member order, whitespace, string spelling and with any unknown members, parses to
the same bytes, those of `from_parts` -/
theorem canonical_any_spelling (e : EventRec) (hs : EventSized e)
    (hbid : ∀ b ∈ e.id, b < 256) (hbpk : ∀ b ∈ e.pubkey, b < 256) (hbsig : ∀ b ∈ e.sig, b < 256)
    (tj₁ ec₁ tj₂ ec₂ : Bytes) (ht₁ : TagsText e.tags tj₁) (hc₁ : Spells e.content ec₁)
    (ht₂ : TagsText e.tags tj₂) (hc₂ : Spells e.content ec₂) (buf₁ buf₂ : Bytes)
    (hb₁ : (encodeEvent e).length ≤ buf₁.length) (hb₂ : (encodeEvent e).length ≤ buf₂.length)
    (ms₁ ms₂ : List ESpec) (hw₁ : ∀ x ∈ ms₁, x.WsOk) (hw₂ : ∀ x ∈ ms₂, x.WsOk)
    (hn₁ : (ms₁.filterMap ESpec.mem?).Nodup) (hn₂ : (ms₂.filterMap ESpec.mem?).Nodup)
    (ha₁ : ∀ m : EMem, m ∈ ms₁.filterMap ESpec.mem?) (ha₂ : ∀ m : EMem, m ∈ ms₂.filterMap ESpec.mem?)
    (l₁ l₂ R₁ R₂ : Bytes) (hl₁ : AllWs l₁) (hl₂ : AllWs l₂) :
    ∃ c₁ c₂ n out₁ out₂,
      parseEvent (l₁ ++ 123 :: evTextU e tj₁ ec₁ ms₁ R₁) buf₁ = .ok (c₁, n, out₁) ∧
      parseEvent (l₂ ++ 123 :: evTextU e tj₂ ec₂ ms₂ R₂) buf₂ = .ok (c₂, n, out₂) ∧
      out₁.take n = out₂.take n ∧ out₁.take n = encodeEvent e ∧ eventFromRec e buf₁ = .ok out₁ := by
  have p₁ := parseEvent_any_order_unknown e hs hbid hbpk hbsig tj₁ ec₁ ht₁ hc₁ buf₁ hb₁ ms₁ hw₁ hn₁ ha₁ l₁ hl₁ R₁
  have p₂ := parseEvent_any_order_unknown e hs hbid hbpk hbsig tj₂ ec₂ ht₂ hc₂ buf₂ hb₂ ms₂ hw₂ hn₂ ha₂ l₂ hl₂ R₂
  refine ⟨_, _, _, _, _, p₁, p₂, ?_, ?_, ?_⟩
  · rw [List.take_left' rfl, List.take_left' rfl]
  · rw [List.take_left' rfl]
  · obtain ⟨e', hd, hf⟩ := from_json_is_from_parts _ _ _ _ _ p₁
    rw [List.take_left' rfl, eventDecode_encode e hs] at hd
    cases hd
    exact hf

/-- non-vacuity of `round_trip`: an event with a tag, an escape-needing content and non-ASCII text meets its hypotheses -/
example : ∃ e : EventRec, EventSized e ∧ TagsUtf8 e.tags ∧ IsUtf8 e.content ∧ e.content ≠ [] ∧ e.tags ≠ [] := by
  refine ⟨{ id := List.replicate 32 1, pubkey := List.replicate 32 2, sig := List.replicate 64 3, kind := 1,
            createdAt := 5, tags := [[utf8Of [101], utf8Of [233, 10]]], content := utf8Of [34, 92, 8364, 128512] }, ?_, ?_, ?_, ?_, ?_⟩
  · constructor <;> decide
  · intro t ht s hs
    simp only [List.mem_singleton] at ht
    subst ht
    simp only [List.mem_cons, List.not_mem_nil, or_false] at hs
    rcases hs with rfl | rfl
    · exact ⟨[101], by decide, rfl⟩
    · exact ⟨[233, 10], by decide, rfl⟩
  · exact ⟨[34, 92, 8364, 128512], by decide, rfl⟩
  · decide
  · decide

/-- the characters `json_escape.rs` names are escaped as JSON prescribes (`Pocket.escape_constants_from_source`, for property C02) -/
theorem escape_constants_from_source :
    (∀ q ∈ Src.c_json_escape_BACKSLASH, ∀ c ∈ Src.c_json_escape_BACKSPACE, escapePiece c = some [q, 98]) ∧
    (∀ q ∈ Src.c_json_escape_BACKSLASH, ∀ c ∈ Src.c_json_escape_TAB, escapePiece c = some [q, 116]) ∧
    (∀ q ∈ Src.c_json_escape_BACKSLASH, ∀ c ∈ Src.c_json_escape_LINEFEED, escapePiece c = some [q, 110]) ∧
    (∀ q ∈ Src.c_json_escape_BACKSLASH, ∀ c ∈ Src.c_json_escape_FORMFEED, escapePiece c = some [q, 102]) ∧
    (∀ q ∈ Src.c_json_escape_BACKSLASH, ∀ c ∈ Src.c_json_escape_CR, escapePiece c = some [q, 114]) ∧
    (∀ q ∈ Src.c_json_escape_BACKSLASH, ∀ c ∈ Src.c_json_escape_QUOTE, escapePiece c = some [q, c]) ∧
    (∀ q ∈ Src.c_json_escape_BACKSLASH, escapePiece q = some [q, q]) := Pocket.escape_constants_from_source

/-- `is_safe_char` is the model's (`Pocket.safe_char_from_source`, for property C02) -/
theorem safe_char_from_source (c : Nat) : Src.isSafeChar c = isSafeChar c := Pocket.safe_char_from_source c

/-- what `event.rs` writes and where it reads is the model's layout (`Pocket.event_writer_from_source`, `event_size_from_source`,
`event_readers_from_source`; for property C02) -/
theorem event_layout_from_source (id pk sig : Bytes) (kind t : Nat) (tagBytes content b : Bytes) :
    Src.encodeEventWith id pk sig kind t tagBytes content = encodeEventWith id pk sig kind t tagBytes content ∧
    Src.eventSize tagBytes.length content.length = eventSize tagBytes.length content.length ∧
    eventDecodeAt Src.evReads b = eventDecode b :=
  ⟨event_writer_from_source id pk sig kind t tagBytes content, rfl, event_readers_from_source b⟩

/-- size, refusals, header and read offsets of `tags.rs` are the model's (`Pocket.tags_size_from_source`,
`tags_from_parts_from_source`, `tag_readers_from_source`; for property C02) -/
theorem tags_layout_from_source (ts : TagsRec) (buf inp : Bytes) :
    Src.tagsSize ts = tagsSize ts ∧
    (tagsFromParts ts buf =
      if Src.tagsRejects (Src.tagsSize ts) buf.length then .err
      else .ok (Src.tagsHeader (Src.tagsSize ts) ts.length ++ encOffsets (Src.tagsBodyStart ts.length) ts ++ encTagsBody ts
                ++ buf.drop (Src.tagsSize ts))) ∧
    tagsReadAt Src.tagReads inp =
      (match tagsDelineate inp with
       | .ok sec => .ok (sec, tagsDecode sec)
       | .err => .err
       | .panic => .panic) :=
  ⟨tags_size_from_source ts, tags_from_parts_from_source ts buf, tag_readers_from_source inp⟩

/-- `Tags::from_parts` with its write loops is the model's `tagsFromParts` (`Pocket.tags_from_parts_whole_from_source`,
`tags_writer_from_source`; for property C02) -/
theorem tags_writer_from_source (ts : TagsRec) (buf : Bytes) :
    (tagsFromParts ts buf = if Src.tagsRejects (Src.tagsSize ts) buf.length then .err else .ok (Src.tagsWrite ts buf)) ∧
    (tagsSize ts ≤ buf.length → Src.tagsWrite ts buf = encodeTags ts ++ buf.drop (tagsSize ts)) :=
  ⟨Pocket.tags_from_parts_whole_from_source ts buf, Pocket.tags_writer_from_source ts buf⟩

end Pocket.C02
