import Pocket.Lemmas.FromSourceLayout
import Pocket.Lemmas.FromSourcePreds
import Pocket.Lemmas.FromSourceConsts
import Pocket.Lemmas.Digits
import Pocket.Lemmas.Layout
import Pocket.Lemmas.ParseFilterWF
import Pocket.Lemmas.FilterOrder
import Pocket.Lemmas.FilterPerm
import Pocket.Lemmas.FilterCanon
import Pocket.Spec.Sized
import Pocket.Spec.JsonText
import Pocket.Spec.FilterText
/-
C07 — `Filter::from_json` (`parse_json_filter`, filter.rs): total; what it accepts is a well-formed binary filter; integer members
never wrap; a member or tag letter given twice is refused wherever it stands.

Strongest: `any_order_any_whitespace_unknown_members`, over the filter texts of `Spec/FilterText.lean` (member lists in any
order, values of known members as `as_json` writes them); the round trip is its case for the list `as_json` writes.  The
`*_from_source` theorems at the end tie the model to today's source text (translated by `lib/srcfacts.py` on every run).

Not proved: other spellings of member VALUES (whitespace inside arrays, upper-case hex, escapes in tag values other than
`as_json`'s), order independence for lists with ill-formed values — these rest on the correspondence check (Python `json`, CST
generator, ill-formed member groups in several orders).
-/
namespace Pocket.C07
open Pocket

theorem parseFilter_total (inp buf : Bytes) : parseFilter inp buf ≠ .panic := (parseFilter_all inp buf).ne_panic

/-- what is accepted is the encoding of a sized filter (`from_parts` of what the accessors return), inside the buffer, the rest
untouched -/
theorem accepted_is_wellformed (inp buf : Bytes) (c n : Nat) (out : Bytes)
    (h : parseFilter inp buf = .ok (c, n, out)) :
    ∃ f, FilterSized f ∧ out = encodeFilter f ++ buf.drop n ∧ n = (encodeFilter f).length ∧
      filterDecode (out.take n) = .ok f ∧ c ≤ inp.length := by
  obtain ⟨f, hs, ho, hn, _, hc⟩ := parseFilter_wf inp buf c n out h
  exact ⟨f, hs, ho, hn, by rw [ho, List.take_left' hn.symm]; exact filterDecode_encode f hs, hc⟩

/-- an accepted member list — any order, any whitespace and commas between members, unknown members among them — is parsed to
what `from_parts` writes for the filter it denotes (tag constraints in text order, `limit` saturated at `u32::MAX`) -/
theorem any_order_any_whitespace_unknown_members (ms : List FSpec) (hws : ∀ x ∈ ms, x.WsOk)
    (hacc : ({} : FAbs).accepts (ms.map (·.m)))
    (lead wEnd rest buf : Bytes) (hlead : AllWs lead) (hwe : SepWs wEnd)
    (hs : FilterSized (({} : FAbs).run (ms.map (·.m))).toFilter)
    (hbuf : (encodeFilter (({} : FAbs).run (ms.map (·.m))).toFilter).length ≤ buf.length) :
    parseFilter (lead ++ 123 :: flText ms (wEnd ++ 125 :: rest)) buf =
      .ok ((lead ++ 123 :: flText ms (wEnd ++ 125 :: rest)).length - rest.length,
        (encodeFilter (({} : FAbs).run (ms.map (·.m))).toFilter).length,
        encodeFilter (({} : FAbs).run (ms.map (·.m))).toFilter ++
          buf.drop (encodeFilter (({} : FAbs).run (ms.map (·.m))).toFilter).length) :=
  parseFilter_any_order ms hws _ rfl hacc lead wEnd rest buf hlead hwe _ rfl hs hbuf

/-- acceptance does not depend on positions: every value admitted, no NIP-01 member and no tag letter twice -/
theorem accepts_characterised (ms : List FMem) :
    ({} : FAbs).accepts ms ↔ (∀ m ∈ ms, FMemOk m) ∧ (ms.filterMap slot).Nodup :=
  FAbs.accepts_empty_iff ms

/-- a repeated NIP-01 member or tag letter is refused wherever it stands -/
theorem repeated_member_refused (ms : List FSpec) (hws : ∀ x ∈ ms, x.WsOk) (hok : ∀ x ∈ ms, FMemOk x.m)
    (hrep : ¬ ((ms.map (·.m)).filterMap slot).Nodup) (lead wEnd rest buf : Bytes) (hlead : AllWs lead)
    (hwe : SepWs wEnd) : parseFilter (lead ++ 123 :: flText ms (wEnd ++ 125 :: rest)) buf = .err :=
  parseFilter_reject ms hws hok (fun h => hrep ((accepts_characterised _).mp h).2) lead wEnd rest buf hlead hwe

/-- a permutation of an accepted member list (any separators) is accepted and denotes the same filter up to the order of the tag
constraints -/
theorem order_independent (ms₁ ms₂ : List FSpec) (hp : (ms₁.map (·.m)).Perm (ms₂.map (·.m)))
    (hws₁ : ∀ x ∈ ms₁, x.WsOk) (hws₂ : ∀ x ∈ ms₂, x.WsOk) (hacc : ({} : FAbs).accepts (ms₁.map (·.m)))
    (lead₁ wEnd₁ rest₁ buf₁ lead₂ wEnd₂ rest₂ buf₂ : Bytes) (hl₁ : AllWs lead₁) (hl₂ : AllWs lead₂)
    (he₁ : SepWs wEnd₁) (he₂ : SepWs wEnd₂)
    (hs : FilterSized (({} : FAbs).run (ms₁.map (·.m))).toFilter)
    (hb₁ : (encodeFilter (({} : FAbs).run (ms₁.map (·.m))).toFilter).length ≤ buf₁.length)
    (hb₂ : (encodeFilter (({} : FAbs).run (ms₁.map (·.m))).toFilter).length ≤ buf₂.length) :
    ∃ f₁ f₂ c₁ c₂,
      parseFilter (lead₁ ++ 123 :: flText ms₁ (wEnd₁ ++ 125 :: rest₁)) buf₁ =
        .ok (c₁, (encodeFilter f₁).length, encodeFilter f₁ ++ buf₁.drop (encodeFilter f₁).length) ∧
      parseFilter (lead₂ ++ 123 :: flText ms₂ (wEnd₂ ++ 125 :: rest₂)) buf₂ =
        .ok (c₂, (encodeFilter f₂).length, encodeFilter f₂ ++ buf₂.drop (encodeFilter f₂).length) ∧
      f₁.ids = f₂.ids ∧ f₁.authors = f₂.authors ∧ f₁.kinds = f₂.kinds ∧ f₁.since = f₂.since ∧
      f₁.until = f₂.until ∧ f₁.limit = f₂.limit ∧ f₁.tags.Perm f₂.tags := by
  have hacc₂ := FAbs.accepts_perm _ _ hp {} hacc
  have heq := FAbs.toFilter_equiv _ _ (FAbs.run_perm _ _ hp ((FAbs.accepts_empty_iff _).mp hacc).2 {})
  obtain ⟨hs₂, hlen⟩ := sized_equiv _ _ hs heq
  exact ⟨_, _, _, _, parseFilter_any_order ms₁ hws₁ _ rfl hacc lead₁ wEnd₁ rest₁ buf₁ hl₁ he₁ _ rfl hs hb₁,
    parseFilter_any_order ms₂ hws₂ _ rfl hacc₂ lead₂ wEnd₂ rest₂ buf₂ hl₂ he₂ _ rfl hs₂ (by rw [hlen]; exact hb₂), heq⟩

/-- for admitted values whose filter is sized and fits the buffer, one order is accepted iff every other is -/
theorem acceptance_order_independent (ms₁ ms₂ : List FSpec) (hp : (ms₁.map (·.m)).Perm (ms₂.map (·.m)))
    (hws₁ : ∀ x ∈ ms₁, x.WsOk) (hws₂ : ∀ x ∈ ms₂, x.WsOk) (hok : ∀ x ∈ ms₁, FMemOk x.m)
    (lead₁ wEnd₁ rest₁ lead₂ wEnd₂ rest₂ buf : Bytes) (hl₁ : AllWs lead₁) (hl₂ : AllWs lead₂)
    (he₁ : SepWs wEnd₁) (he₂ : SepWs wEnd₂)
    (hfit : FilterSized (({} : FAbs).run (ms₁.map (·.m))).toFilter ∧
      (encodeFilter (({} : FAbs).run (ms₁.map (·.m))).toFilter).length ≤ buf.length) :
    (∃ r, parseFilter (lead₁ ++ 123 :: flText ms₁ (wEnd₁ ++ 125 :: rest₁)) buf = .ok r) ↔
    (∃ r, parseFilter (lead₂ ++ 123 :: flText ms₂ (wEnd₂ ++ 125 :: rest₂)) buf = .ok r) := by
  have hok₂ : ∀ x ∈ ms₂, FMemOk x.m :=
    List.forall_mem_map.mp fun m hm => List.forall_mem_map.mpr hok m (hp.mem_iff.mpr hm)
  by_cases hacc : ({} : FAbs).accepts (ms₁.map (·.m))
  · obtain ⟨f₁, f₂, c₁, c₂, h1, h2, _⟩ := order_independent ms₁ ms₂ hp hws₁ hws₂ hacc lead₁ wEnd₁ rest₁ buf
      lead₂ wEnd₂ rest₂ buf hl₁ hl₂ he₁ he₂ hfit.1 hfit.2 hfit.2
    exact ⟨fun _ => ⟨_, h2⟩, fun _ => ⟨_, h1⟩⟩
  · have hacc₂ : ¬ ({} : FAbs).accepts (ms₂.map (·.m)) := fun h => hacc (FAbs.accepts_perm _ _ hp.symm {} h)
    have r1 := parseFilter_reject ms₁ hws₁ hok hacc lead₁ wEnd₁ rest₁ buf hl₁ he₁
    have r2 := parseFilter_reject ms₂ hws₂ hok₂ hacc₂ lead₂ wEnd₂ rest₂ buf hl₂ he₂
    rw [r1, r2]

/-- `from_json (as_json f) = from_parts f` byte for byte, consuming exactly the text, for every canonical filter, trailing input
and sufficient buffer -/
theorem round_trip (f : FilterRec) (hc : FilterCanon f) (rest buf : Bytes)
    (hbuf : (encodeFilter f).length ≤ buf.length) :
    ∃ txt, filterJson f = .ok txt ∧
      parseFilter (txt ++ rest) buf =
        .ok (txt.length, (encodeFilter f).length, encodeFilter f ++ buf.drop (encodeFilter f).length) := by
  obtain ⟨txt, ht⟩ := filterJson_ok f hc
  exact ⟨txt, ht, parseFilter_filterJson f hc txt ht rest buf hbuf⟩

/-- the accessors of the value `from_json` writes for `as_json f` return `f` -/
theorem round_trip_values (f : FilterRec) (hc : FilterCanon f) (rest buf : Bytes)
    (hbuf : (encodeFilter f).length ≤ buf.length) :
    ∃ txt c n out, filterJson f = .ok txt ∧ parseFilter (txt ++ rest) buf = .ok (c, n, out) ∧
      c = txt.length ∧ filterDecode (out.take n) = .ok f := by
  obtain ⟨txt, ht, hp⟩ := round_trip f hc rest buf hbuf
  refine ⟨txt, _, _, _, ht, hp, rfl, ?_⟩
  rw [List.take_left' rfl]
  exact filterDecode_encode f hc.sized

/-- a `since`/`until` literal below 2^64 is read exactly -/
theorem since_until_literal (n : Nat) (rest : Bytes) (hn : n < 18446744073709551616)
    (hr : NoLeadingDigit rest) : readU64 (decOf n ++ rest) = .ok (n, rest) :=
  readU64_decOf n rest hn hr

/-- a `since`/`until` literal of 2^64 or more is rejected, never wrapped -/
theorem since_until_wide_rejected (n : Nat) (rest : Bytes) (hn : n ≥ 18446744073709551616)
    (hr : NoLeadingDigit rest) : readU64 (decOf n ++ rest) = .err :=
  readU64_decOf_wide n rest hn

/-- a kind of 65536 or more is an error: every kind the copy loop stores is smaller -/
theorem kind_member_bound (fuel : Nat) (inp : Bytes) (e cap n : Nat) (ks : List Nat)
    (h : copyKinds fuel inp e cap n = .ok ks) : ∀ k ∈ ks, k < 65536 :=
  ((copyKinds_all fuel inp e cap n).of_ok h).1

/-- a tag member whose letter has been seen is refused, wherever the first stood -/
theorem duplicate_letter_rejected (st : FlSt) (l : Nat) (after : Bytes) (hl : isLetter l = true)
    (hseen : l ∈ st.letters) (hfew : st.tagStarts.length < 52) :
    flMember st (34 :: 35 :: l :: 34 :: after) = .err :=
  flMember_letter_seen st l after hl hseen

/-- non-vacuity: `{ "x":{"a":[1,true]} , "#e":[] ,"since" : 7 }` -/
example : ∃ ms : List FSpec, (∀ x ∈ ms, x.WsOk) ∧ ({} : FAbs).accepts (ms.map (·.m)) ∧ ms.length = 3 ∧
    FilterSized (({} : FAbs).run (ms.map (·.m))).toFilter := by
  refine ⟨[⟨[32], [], [], .unknown [120] (123 :: ([] ++ 34 :: ([97] ++ 34 :: ([] ++ 58 :: ([] ++
              ((91 :: ([] ++ ([49] ++ ([44] ++ ([116, 114, 117, 101] ++ ([] ++ [93])))))) ++ ([] ++ [125])))))))⟩,
           ⟨[32, 44], [], [], .tag 101 [] []⟩, ⟨[44], [32], [32], .since 7⟩], ?_, ?_, rfl, ?_⟩
  · simp only [FSpec.WsOk, SepWs, AllWs]
    decide
  · refine (accepts_characterised _).mpr ⟨?_, by decide⟩
    intro m hm
    simp only [List.map_cons, List.map_nil, List.mem_cons, List.not_mem_nil, or_false] at hm
    rcases hm with rfl | rfl | rfl
    · refine ⟨.raw 120 [] (by decide) (by decide) .nil, by decide, ?_, 2, by decide, ?_⟩
      · intro l _ h; cases h
      · refine .obj _ (.mCons [] [97] [] [] _ _ (by intro b hb; cases hb) (.raw 97 [] (by decide) (by decide) .nil)
          (by intro b hb; cases hb) (by intro b hb; cases hb) ?_ (.mEnd [] (by intro b hb; cases hb)) ?_)
        · refine .arr _ (.eCons [] [49] _ (by intro b hb; cases hb) (.num [49] ⟨49, [], rfl, Or.inr (by decide), by simp⟩) ?_ ?_)
          · refine .eCons [44] [116, 114, 117, 101] _ (by intro b hb; simp at hb; exact Or.inr hb) .tru
              (.eEnd [] (by intro b hb; cases hb)) ?_
            intro b r h; simp at h; obtain ⟨rfl, _⟩ := h; decide
          · intro b r h; simp at h; obtain ⟨rfl, _⟩ := h; decide
        · intro b r h; simp at h; obtain ⟨rfl, _⟩ := h; decide
    · exact ⟨by decide, by simp, rfl, by simp⟩
    · simp [FMemOk]
  · constructor <;> simp [FAbs.run, FAbs.apply, FAbs.toFilter, U64MAX, U32MAX, tagsSize, tagsBodySize, tagSize, strsSize]

/-- non-vacuity of `FilterCanon`: ids, a kind, two tag constraints, a limit -/
example : ∃ f : FilterRec, FilterCanon f ∧ f.tags.length = 2 ∧ f.ids ≠ [] := by
  refine ⟨{ ids := [List.replicate 32 7], authors := [], kinds := [1], tags := [[[101], utf8Of [97]], [[112], utf8Of [233], utf8Of [10]]],
            since := 0, «until» := U64MAX, limit := 10 }, ?_, rfl, by simp⟩
  refine ⟨?_, ?_, ?_, ?_, ?_⟩
  · constructor <;> simp [U64MAX] <;> decide
  · intro x hx b hb
    simp only [List.mem_singleton] at hx; subst hx
    simp only [List.mem_replicate] at hb; omega
  · intro x hx; cases hx
  · intro t ht
    simp only [List.mem_cons, List.not_mem_nil, or_false] at ht
    rcases ht with rfl | rfl
    · exact ⟨101, [utf8Of [97]], rfl, by decide, fun v hv => by
        simp only [List.mem_singleton] at hv; subst hv; exact ⟨[97], by decide, rfl⟩, by decide⟩
    · exact ⟨112, [utf8Of [233], utf8Of [10]], rfl, by decide, fun v hv => by
        simp only [List.mem_cons, List.not_mem_nil, or_false] at hv
        rcases hv with rfl | rfl
        · exact ⟨[233], by decide, rfl⟩
        · exact ⟨[10], by decide, rfl⟩, by decide⟩
  · decide

/-- the header offsets and element sizes named in `filter.rs` are the model's -/
theorem filter_layout_from_source :
    (∀ a ∈ Src.c_filter_ARRAYS_OFFSET, filterSize 0 0 0 0 = a) ∧
    (∀ s ∈ Src.c_filter_ID_SIZE, filterSize 1 0 0 0 = filterSize 0 0 0 0 + s) ∧
    (∀ s ∈ Src.c_filter_PUBKEY_SIZE, filterSize 0 1 0 0 = filterSize 0 0 0 0 + s) ∧
    (∀ s ∈ Src.c_filter_KIND_SIZE, filterSize 0 0 1 0 = filterSize 0 0 0 0 + s) ∧
    Src.c_filter_NUM_IDS_OFFSET = [4] ∧ Src.c_filter_NUM_AUTHORS_OFFSET = [6] ∧ Src.c_filter_NUM_KINDS_OFFSET = [8] ∧
    Src.c_filter_LIMIT_OFFSET = [12] ∧ Src.c_filter_SINCE_OFFSET = [16] ∧ Src.c_filter_UNTIL_OFFSET = [24] :=
  Pocket.filter_layout_from_source

/-- `start_tags` has one slot per letter -/
theorem tag_table_from_source : Src.startTagsLen = 52 := Pocket.parser_bounds_from_source.2

/-- the test on the byte after `#` in `parse_json_filter` is the model's `isLetter` -/
theorem tag_member_letter_from_source (b : Nat) : Src.tagMemberLetter b = isLetter b := Pocket.tag_member_letter_from_source b

/-- the 32-byte header `Filter::from_parts` writes is the head of the model's encoding; an absent limit / since / until is written
as `u32::MAX` / `0` / `u64::MAX` -/
theorem filter_header_from_source (ids authors : List Bytes) (kinds : List Nat) (tagBytes : Bytes) (since «until» limit : Nat) (size a b c : Nat) :
    encodeFilterWith ids authors kinds tagBytes since «until» limit =
      Src.filterHeader (filterSize ids.length authors.length kinds.length tagBytes.length) ids.length authors.length kinds.length
        (some limit) (some since) (some «until») ++ (flat32 ids ++ flat32 authors ++ flatKinds kinds ++ tagBytes) ∧
    Src.filterHeader size a b c none none none = Src.filterHeader size a b c (some U32MAX) (some 0) (some U64MAX) :=
  ⟨Pocket.filter_header_from_source ids authors kinds tagBytes since «until» limit, filter_defaults_from_source size a b c⟩

/-- the copy loops of `Filter::from_parts` (translated as random-access writes through the moving `p`) complete a buffer that
starts with the header to the model's `encodeFilterWith` and leave the rest alone -/
theorem filter_arrays_from_source (ids authors : List Bytes) (kinds : List Nat) (tagBytes Y : Bytes) (since «until» limit : Nat)
    (hi : ∀ x ∈ ids, x.length = 32) (ha : ∀ x ∈ authors, x.length = 32) :
    Src.filterArraysWrite ids authors kinds tagBytes
        (Src.filterHeader (filterSize ids.length authors.length kinds.length tagBytes.length) ids.length authors.length kinds.length
          (some limit) (some since) (some «until») ++ Y) =
      encodeFilterWith ids authors kinds tagBytes since «until» limit ++
        Y.drop (32 * ids.length + 32 * authors.length + 2 * kinds.length + tagBytes.length) :=
  filter_writer_from_source ids authors kinds tagBytes Y since «until» limit hi ha

end Pocket.C07
