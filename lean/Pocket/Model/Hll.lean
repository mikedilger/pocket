import Pocket.Model.Event
import Pocket.Model.Hex
namespace Pocket

/-- the 256 registers of an `Hll8` -/
abbrev Regs := List Nat

def hllNew : Regs := List.replicate 256 0

/-- `u8::leading_zeros` -/
def clz8 (b : Nat) : Nat :=
  if b ≥ 128 then 0 else if b ≥ 64 then 1 else if b ≥ 32 then 2 else if b ≥ 16 then 3
  else if b ≥ 8 then 4 else if b ≥ 4 then 5 else if b ≥ 2 then 6 else if b ≥ 1 then 7 else 8

/-- the zero count of `add_element`: leading zero bits of `input[offset+1 ..= 31]`, stopping at
the first byte that is not zero -/
def countZeros : Bytes → Nat
  | [] => 0
  | b :: bs => if clz8 b < 8 then clz8 b else 8 + countZeros bs

def setReg : Regs → Nat → Nat → Regs
  | [], _, _ => []
  | r :: rs, 0, v => (if v > r then v else r) :: rs
  | r :: rs, i + 1, v => r :: setReg rs i v

/-- `Hll8::add_element(input, offset)`; the `u8` additions are checked (overflow = panic) -/
def hllAdd (regs : Regs) (input : Bytes) (offset : Nat) : Outcome Regs :=
  if offset ≥ 24 then .err
  else
    let index := input.getD offset 0
    let zeros := countZeros (input.drop (offset + 1))
    if zeros + 1 > 255 then .panic
    else .ok (setReg regs index (zeros + 1))

/-- `AddAssign`: register-wise maximum -/
def hllMerge : Regs → Regs → Regs
  | a :: as, b :: bs => (if b > a then b else a) :: hllMerge as bs
  | as, [] => as
  | [], _ => []

def hllFromHex (s : Bytes) : Outcome Regs := readHex 256 s
def hllToHex (r : Regs) : Bytes := hexOf r

/-- number of zero registers (the integer stage of `estimate_count`) -/
def zeroCount (r : Regs) : Nat := (r.filter (· == 0)).length

end Pocket
