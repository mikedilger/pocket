import Pocket.Model.Event
namespace Pocket

structure FilterRec where
  ids : List Bytes
  authors : List Bytes
  kinds : List Nat
  tags : TagsRec
  since : Nat
  «until» : Nat
  limit : Nat
deriving Repr, DecidableEq, Inhabited

def U64MAX : Nat := 18446744073709551615
def U32MAX : Nat := 4294967295

def flat32 : List Bytes → Bytes
  | [] => []
  | x :: xs => x ++ flat32 xs
def flatKinds : List Nat → Bytes
  | [] => []
  | k :: ks => le16 k ++ flatKinds ks

/-- `Filter::output_size_needed` -/
def filterSize (nIds nAuthors nKinds tagsLen : Nat) : Nat :=
  32 + nIds * 32 + nAuthors * 32 + nKinds * 2 + tagsLen

def encodeFilterWith (ids authors : List Bytes) (kinds : List Nat) (tagBytes : Bytes)
    (since «until» limit : Nat) : Bytes :=
  le32 (filterSize ids.length authors.length kinds.length tagBytes.length) ++
    le16 ids.length ++ le16 authors.length ++ le16 kinds.length ++ [0, 0] ++
    le32 limit ++ le64 since ++ le64 «until» ++ flat32 ids ++ flat32 authors ++ flatKinds kinds ++
    tagBytes

def encodeFilter (f : FilterRec) : Bytes :=
  encodeFilterWith f.ids f.authors f.kinds (encodeTags f.tags) f.since f.until f.limit

/-- `Filter::from_parts` (options already defaulted: since 0, until u64::MAX, limit u32::MAX) -/
def filterFromParts (ids authors : List Bytes) (kinds : List Nat) (tagBytes : Bytes)
    (since «until» limit : Nat) (buf : Bytes) : Outcome Bytes :=
  let n := filterSize ids.length authors.length kinds.length tagBytes.length
  if ids.length > 65535 ∨ authors.length > 65535 ∨ kinds.length > 65535 then .err
  else if n > 4294967295 then .err
  else if buf.length < n then .err
  else .ok (encodeFilterWith ids authors kinds tagBytes since «until» limit ++ buf.drop n)

def filterFromRec (f : FilterRec) (buf : Bytes) : Outcome Bytes :=
  if tagsSize f.tags > 65535 then .err
  else filterFromParts f.ids f.authors f.kinds (encodeTags f.tags) f.since f.until f.limit buf

/-- `Filter::delineate` -/
def filterDelineate (inp : Bytes) : Outcome Bytes :=
  if inp.length < 32 then .err
  else match rd32 inp 0 with
    | .ok len => if inp.length < len then .err else .ok (inp.take len)
    | .err => .err
    | .panic => .panic

/-- `FilterIdIter`/`FilterAuthorIter` on the suffix that starts at the first item: up to `n`
32-byte items; an item that would run past the end makes the iterator yield `None`, which ends
every consumer's loop -/
def readItems32 : Nat → Bytes → List Bytes
  | 0, _ => []
  | n + 1, s =>
    if (s.take 32).length < 32 then []
    else s.take 32 :: readItems32 n (s.drop 32)

-- `a + 256 * (b + 256 * 0)` is `leVal [a, b]` unfolded, so that the little-endian lemmas apply to it by `rfl`
def readKinds : Nat → Bytes → List Nat
  | 0, _ => []
  | n + 1, s =>
    match s with
    | a :: b :: rest => (a + 256 * (b + 256 * 0)) :: readKinds n rest
    | _ => []

/-- all accessors of `Filter` -/
def filterDecode (b : Bytes) : Outcome FilterRec :=
  match rd16 b 4, rd16 b 6, rd16 b 8, rd32 b 12, rd64 b 16, rd64 b 24 with
  | .ok ni, .ok na, .ok nk, .ok limit, .ok since, .ok «until» =>
    let st := 32 + ni * 32 + na * 32 + nk * 2
    if b.length < st then .panic
    else match tagsDelineate (b.drop st) with
      | .ok tb =>
        match tagsDecode tb with
        | .ok tags =>
          .ok ⟨readItems32 ni (b.drop 32), readItems32 na (b.drop (32 + ni * 32)),
               readKinds nk (b.drop (32 + ni * 32 + na * 32)), tags, since, «until», limit⟩
        | .err => .err
        | .panic => .panic
      | .err => .err
      | .panic => .panic
  | _, _, _, _, _, _ => .panic

/-- the tag loop of `Filter::event_matches`: `while let Some(letter) = filter_tags.get_string(i, 0)`
ends at the first filter tag without a name -/
def filterTagLoop (etags : TagsRec) : TagsRec → Bool
  | [] => true
  | ft :: rest =>
    match ft with
    | [] => true
    | letter :: values =>
      if values.any (fun v => tagsMatch etags letter v) then filterTagLoop etags rest else false

/-- `Filter::event_matches` on the decoded values -/
def eventMatches (f : FilterRec) (e : EventRec) : Bool :=
  if !f.ids.isEmpty && !f.ids.any (· == e.id) then false
  else if !f.authors.isEmpty && !f.authors.any (· == e.pubkey) then false
  else if !f.kinds.isEmpty && !f.kinds.any (· == e.kind) then false
  else if e.createdAt < f.since then false
  else if e.createdAt > f.until then false
  else if !f.tags.isEmpty then
    if e.tags.isEmpty then false else filterTagLoop e.tags f.tags
  else true

/-- `event_matches` on the binary forms: decode through the accessor models, then match -/
def eventMatchesB (fb eb : Bytes) : Outcome Bool :=
  match filterDecode fb, eventDecode eb with
  | .ok f, .ok e => .ok (eventMatches f e)
  | .panic, _ => .panic
  | _, .panic => .panic
  | _, _ => .err

/-- `Filter::as_json` -/
def idsJson : List Bytes → Bool → Bytes
  | [], _ => []
  | x :: xs, first => (if first then [] else [44]) ++ [34] ++ hexOf x ++ [34] ++ idsJson xs false
def kindsJson : List Nat → Bool → Bytes
  | [], _ => []
  | k :: ks, first => (if first then [] else [44]) ++ decOf k ++ kindsJson ks false

/-- the strings of one filter tag: name first, then values -/
def ftagValuesJson : List Bytes → Bool → Outcome Bytes
  | [], _ => .ok []
  | v :: vs, first =>
    match jsonEscape v, ftagValuesJson vs false with
    | .ok e, .ok r => .ok ((if first then [] else [44]) ++ [34] ++ e ++ [34] ++ r)
    | .panic, _ => .panic
    | _, .panic => .panic
    | _, _ => .err

/-- members are emitted as `piece`s; `first` tracks whether a comma is needed -/
def ftagsJson : TagsRec → Bool → Outcome (Bytes × Bool)
  | [], first => .ok ([], first)
  | t :: ts, first =>
    let sep : Bytes := if first then [] else [44]
    match t with
    | [] =>
      -- a tag with no strings writes just the closing bracket
      match ftagsJson ts false with
      | .ok (r, f') => .ok (sep ++ [93] ++ r, f')
      | .err => .err
      | .panic => .panic
    | name :: values =>
      match jsonEscape name, ftagValuesJson values true, ftagsJson ts false with
      | .ok en, .ok vj, .ok (r, f') => .ok (sep ++ [34, 35] ++ en ++ [34, 58, 91] ++ vj ++ [93] ++ r, f')
      | .panic, _, _ => .panic
      | _, .panic, _ => .panic
      | _, _, .panic => .panic
      | _, _, _ => .err

def filterJson (f : FilterRec) : Outcome Bytes :=
  let p1 : Bytes := if f.ids.isEmpty then [] else
    [34, 105, 100, 115, 34, 58, 91] ++ idsJson f.ids true ++ [93]
  let first1 := f.ids.isEmpty
  let p2 : Bytes := if f.authors.isEmpty then [] else
    (if first1 then [] else [44]) ++ [34, 97, 117, 116, 104, 111, 114, 115, 34, 58, 91] ++
      idsJson f.authors true ++ [93]
  let first2 := first1 && f.authors.isEmpty
  let p3 : Bytes := if f.kinds.isEmpty then [] else
    (if first2 then [] else [44]) ++ [34, 107, 105, 110, 100, 115, 34, 58, 91] ++
      kindsJson f.kinds true ++ [93]
  let first3 := first2 && f.kinds.isEmpty
  match ftagsJson f.tags first3 with
  | .ok (p4, first4) =>
    let p5 : Bytes := if f.limit = U32MAX then [] else
      (if first4 then [] else [44]) ++ [34, 108, 105, 109, 105, 116, 34, 58] ++ decOf f.limit
    let first5 := first4 && f.limit = U32MAX
    let p6 : Bytes := if f.since = 0 then [] else
      (if first5 then [] else [44]) ++ [34, 115, 105, 110, 99, 101, 34, 58] ++ decOf f.since
    let first6 := first5 && f.since = 0
    let p7 : Bytes := if f.until = U64MAX then [] else
      (if first6 then [] else [44]) ++ [34, 117, 110, 116, 105, 108, 34, 58] ++ decOf f.until
    .ok ([123] ++ p1 ++ p2 ++ p3 ++ p4 ++ p5 ++ p6 ++ p7 ++ [125])
  | .err => .err
  | .panic => .panic

end Pocket
