import Pocket.Model.Store
/- The event-map file as `EventStore` (event_store.rs) and `MmapAppend` (the mmap-append dependency)
manage it: the file's length and the persisted end marker (durable), the length this `EventStore`
remembers and the length of its mapping (volatile).  `set_len(n)` sets the file's length to exactly
`n` — it TRUNCATES when `n` is smaller — so "the file never shrinks" is a theorem, not a given. -/
namespace Pocket

structure EMap where
  /-- length of `event.map` on disk -/
  fileLen : Nat
  /-- the end offset persisted in the first 8 bytes -/
  marker : Nat
  /-- `event_map_file_len`: what this `EventStore` believes the file length is -/
  memLen : Nat
  /-- length of the memory mapping (`MmapAppend::inner.len()`) -/
  mapLen : Nat
deriving Repr, DecidableEq, Inhabited

/-- `EventStore::new` on a file of length `fileLen` (0 = absent or just created) whose first 8 bytes,
if it has them, hold `marker` -/
def emOpen (chunk fileLen marker : Nat) : Outcome EMap :=
  let new := decide (fileLen < 8) || decide (marker < 8)
  let len := if new && decide (fileLen < chunk) then chunk else fileLen
  -- `MmapAppend::new`: the whole file is mapped; too short for the header is an error
  if len < 8 then .err
  else .ok { fileLen := len, marker := if new then 8 else marker, memLen := len, mapLen := len }

/-- `MmapAppend::append(n, …)`: `none` = "Out of space" -/
def emAppend (m : EMap) (n : Nat) : Option EMap :=
  if m.marker + n > m.mapLen then none else some { m with marker := m.marker + n }

/-- one round of the grow path: `set_len(remembered + CHUNK)`, `resize`, remember -/
def emGrow (chunk : Nat) (m : EMap) : EMap :=
  let nl := m.memLen + chunk
  { m with fileLen := nl, mapLen := nl, memLen := nl }

/-- the append-or-grow loop of `EventStore::store_event`: `(offset, map afterwards)` -/
def emStoreLoop : Nat → Nat → EMap → Nat → Outcome (Nat × EMap)
  | 0, _, _, _ => .err
  | fuel + 1, chunk, m, size =>
    match emAppend m size with
    | some m' => .ok (m.marker, m')
    | none => emStoreLoop fuel chunk (emGrow chunk m) size

def emPad (m : EMap) : Nat := if m.marker % 8 = 0 then 0 else 8 - m.marker % 8

-- the source's grow-and-retry loop has no bound; the fuel `size / chunk + 2` is never exhausted (`emStoreLoop_ok`, Lemmas/EventMap.lean:
-- each round adds a chunk, `size / chunk + 1` of them hold the event)
/-- `EventStore::store_event(event)` for an event of `size` bytes -/
def emStore (chunk : Nat) (m : EMap) (size : Nat) : Outcome (Nat × EMap) :=
  -- the padding append is outside the grow-and-retry loop: "Out of space" there is returned
  match (if emPad m = 0 then some m else emAppend m (emPad m)) with
  | none => .err
  | some m1 => emStoreLoop (size / chunk + 2) chunk m1 size

/-- the durable `(fileLen, marker)` pairs the loop passes through (a kill can leave any of them) -/
def emLoopStates : Nat → Nat → EMap → Nat → List (Nat × Nat)
  | 0, _, m, _ => [(m.fileLen, m.marker)]
  | fuel + 1, chunk, m, size =>
    match emAppend m size with
    | some m' => [(m.fileLen, m.marker), (m'.fileLen, m'.marker)]
    | none => (m.fileLen, m.marker) :: emLoopStates fuel chunk (emGrow chunk m) size

def emStoreStates (chunk : Nat) (m : EMap) (size : Nat) : List (Nat × Nat) :=
  match (if emPad m = 0 then some m else emAppend m (emPad m)) with
  | none => [(m.fileLen, m.marker)]
  | some m1 => (m.fileLen, m.marker) :: emLoopStates (size / chunk + 2) chunk m1 size

end Pocket
