import Pocket.Model.Filter
import Pocket.Model.Hex
/-
The hand-written JSON readers of `json/json_parse.rs`, on the *remaining suffix* of the input
(DESIGN.md §3 "Cursors instead of indices").  `peek(input, pos)?` is "head of the suffix, `err`
when empty".  Output capacity checks (`put`, `get_mut(..)`, `output_slice!`) are explicit
arithmetic on `cap`.  Loops take fuel = remaining length + 1; `…_fuel` lemmas show it suffices.
-/
namespace Pocket

/-- `Filter::hyperloglog_offset` (NIP-45): only `{"#p":[<64 hex>],"kinds":[3]}` and
`{"#e":[<64 hex>],"kinds":[7]}` with nothing else set; the offset is the value of hex character 32
plus 8.  A byte that is not a hex character (incl. bytes ≥ 0x80) gives `None`. -/
def hllOffset (f : FilterRec) : Option Nat :=
  if f.ids.length ≠ 0 ∨ f.authors.length ≠ 0 ∨ f.kinds.length ≠ 1 ∨ f.limit ≠ U32MAX ∨ f.since ≠ 0 ∨
      f.until ≠ U64MAX ∨ f.tags.length ≠ 1 then none
  else
    let letter : Option Bytes :=
      match f.kinds.head? with
      | some 3 => some [112]
      | some 7 => some [101]
      | _ => none
    match letter, f.tags with
    | some l, [t] =>
      if t[0]? ≠ some l then none
      else match t[1]? with
        | some hex =>
          if hex.length ≠ 64 then none
          else match hexInv (hex.getD 32 0) with
            | some v => some (v + 8)
            | none => none
        | none => none
    | _, _ => none

def isWs (b : Nat) : Bool := b == 32 || b == 9 || b == 10 || b == 13

/-- `eat_whitespace` -/
def eatWs : Bytes → Bytes
  | [] => []
  | b :: rest => if isWs b then eatWs rest else b :: rest

/-- `eat_whitespace_and_commas` -/
def eatWsC : Bytes → Bytes
  | [] => []
  | b :: rest => if isWs b || b == 44 then eatWsC rest else b :: rest

/-- `verify_char` -/
def verifyChar (ch : Nat) : Bytes → Outcome Bytes
  | [] => .err
  | b :: rest => if b = ch then .ok rest else .err

/-- `eat_colon_with_whitespace` -/
def eatColon (inp : Bytes) : Outcome Bytes :=
  match verifyChar 58 (eatWs inp) with
  | .ok r => .ok (eatWs r)
  | .err => .err
  | .panic => .panic

/-- `next_object_field`: `true` = the object ended -/
def nextObjectField (inp : Bytes) : Outcome (Bool × Bytes) :=
  match eatWs inp with
  | [] => .err
  | b :: rest => if b = 125 then .ok (true, rest) else if b = 44 then .ok (false, rest) else .err

/-- `read_id` / `read_pubkey` (`n = 32`) and the hex part of `read_sig` (`n = 64`):
opening quote, `2n` hex characters (with at least one more byte after them), closing quote -/
def readHexField (n : Nat) (inp : Bytes) : Outcome (Bytes × Bytes) :=
  match verifyChar 34 inp with
  | .ok r =>
    if r.length ≤ 2 * n then .err
    else match readHex n (r.take (2 * n)) with
      | .ok v =>
        match verifyChar 34 (r.drop (2 * n)) with
        | .ok r' => .ok (v, r')
        | .err => .err
        | .panic => .panic
      | .err => .err
      | .panic => .panic
  | .err => .err
  | .panic => .panic

def isDigit (b : Nat) : Bool := 48 ≤ b && b ≤ 57

/-- the digit loop of `read_u64`, with checked arithmetic -/
def readU64Loop : Bytes → Nat → Bool → Outcome (Nat × Bool × Bytes)
  | [], acc, any => .ok (acc, any, [])
  | b :: rest, acc, any =>
    if isDigit b then
      let v := acc * 10 + (b - 48)
      if v > U64MAX then .err else readU64Loop rest v true
    else .ok (acc, any, b :: rest)

/-- `read_u64` -/
def readU64 (inp : Bytes) : Outcome (Nat × Bytes) :=
  match readU64Loop inp 0 false with
  | .ok (v, any, rest) => if any then .ok (v, rest) else .err
  | .err => .err
  | .panic => .panic

def readKindLoop : Bytes → Nat → Bool → Outcome (Nat × Bool × Bytes)
  | [], acc, any => .ok (acc, any, [])
  | b :: rest, acc, any =>
    if isDigit b then
      let v := acc * 10 + (b - 48)
      if v > 65535 then .err else readKindLoop rest v true
    else .ok (acc, any, b :: rest)

/-- `read_kind` -/
def readKind (inp : Bytes) : Outcome (Nat × Bytes) :=
  match readKindLoop inp 0 false with
  | .ok (v, any, rest) => if any then .ok (v, rest) else .err
  | .err => .err
  | .panic => .panic

/-- `burn_string`: from after the opening quote to after the closing quote -/
def burnString : Bytes → Outcome Bytes
  | [] => .err
  | [b] => if b = 34 then .ok [] else .err
  | b :: c :: rest =>
    if b = 34 then .ok (c :: rest)
    else if b = 92 then burnString rest
    else burnString (c :: rest)

/-- the `while peek == ','` loop of `burn_tag` -/
def burnTagLoop : Nat → Bytes → Outcome Bytes
  | 0, _ => .err
  | fuel + 1, inp =>
    match inp with
    | [] => .err
    | b :: rest =>
      if b = 44 then
        match verifyChar 34 (eatWs rest) with
        | .ok r =>
          match burnString r with
          | .ok r' => burnTagLoop fuel (eatWs r')
          | .err => .err
          | .panic => .panic
        | .err => .err
        | .panic => .panic
      else verifyChar 93 (b :: rest)

/-- `burn_tag`: from after `[` to after `]` -/
def burnTag (inp : Bytes) : Outcome Bytes :=
  match eatWs inp with
  | [] => .err
  | b :: rest =>
    if b = 93 then .ok rest
    else match verifyChar 34 (b :: rest) with
      | .ok r =>
        match burnString r with
        | .ok r' => burnTagLoop (r'.length + 1) (eatWs r')
        | .err => .err
        | .panic => .panic
      | .err => .err
      | .panic => .panic

def countTagsLoop : Nat → Bytes → Nat → Outcome Nat
  | 0, _, _ => .err
  | fuel + 1, inp, count =>
    match inp with
    | [] => .err
    | b :: rest =>
      if b = 93 then .ok count
      else if b = 44 then
        match verifyChar 91 (eatWs rest) with
        | .ok r =>
          match burnTag r with
          | .ok r' => countTagsLoop fuel (eatWs r') (count + 1)
          | .err => .err
          | .panic => .panic
        | .err => .err
        | .panic => .panic
      else .err

/-- `count_tags`: from the first non-blank character after the outer `[`; does not consume -/
def countTags (inp : Bytes) : Outcome Nat :=
  match inp with
  | [] => .err
  | b :: rest =>
    if b = 93 then .ok 0
    else if b = 91 then
      match burnTag rest with
      | .ok r => countTagsLoop (r.length + 1) (eatWs r) 1
      | .err => .err
      | .panic => .panic
    else .err

-- the bytes of `b".+-0123456789abcdefABCDEF_oOxXn"`, the set `burn_number` skips over (json_parse.rs)
def numberChars : List Nat :=
  [46, 43, 45, 48, 49, 50, 51, 52, 53, 54, 55, 56, 57, 97, 98, 99, 100, 101, 102,
   65, 66, 67, 68, 69, 70, 95, 111, 79, 120, 88, 110]

/-- `burn_number` -/
def burnNumber : Bytes → Bytes
  | [] => []
  | b :: rest => if numberChars.contains b then burnNumber rest else b :: rest

def burnLit (lit : Bytes) (inp : Bytes) : Outcome Bytes :=
  if inp.take lit.length = lit then .ok (inp.drop lit.length) else .err

def MAX_BURN_DEPTH : Nat := 64

mutual
/-- `burn_value(input, inposp, depth)` -/
def burnValue : Nat → Bytes → Nat → Outcome Bytes
  | 0, _, _ => .err
  | fuel + 1, inp, depth =>
    if depth > MAX_BURN_DEPTH then .err
    else match inp with
      | [] => .err
      | b :: rest =>
        if b = 34 then burnString rest
        else if b = 91 then burnArray fuel rest depth
        else if b = 123 then burnObject fuel rest depth
        else if b = 116 then burnLit [116, 114, 117, 101] (b :: rest)
        else if b = 102 then burnLit [102, 97, 108, 115, 101] (b :: rest)
        else if b = 110 then burnLit [110, 117, 108, 108] (b :: rest)
        else if b = 45 then .ok (burnNumber (b :: rest))
        else if isDigit b then .ok (burnNumber (b :: rest))
        else .err
/-- `burn_array`: from after `[` -/
def burnArray : Nat → Bytes → Nat → Outcome Bytes
  | 0, _, _ => .err
  | fuel + 1, inp, depth =>
    match eatWsC inp with
    | [] => .err
    | b :: rest =>
      if b = 93 then .ok rest
      else match burnValue fuel (b :: rest) (depth + 1) with
        | .ok r => burnArray fuel r depth
        | .err => .err
        | .panic => .panic
/-- `burn_object`: from after `{` -/
def burnObject : Nat → Bytes → Nat → Outcome Bytes
  | 0, _, _ => .err
  | fuel + 1, inp, depth =>
    match eatWsC inp with
    | [] => .err
    | b :: rest =>
      if b = 125 then .ok rest
      else match verifyChar 34 (b :: rest) with
        | .ok r =>
          match burnString r with
          | .ok r' =>
            match eatColon r' with
            | .ok r'' =>
              match burnValue fuel r'' (depth + 1) with
              | .ok r3 => burnObject fuel r3 depth
              | .err => .err
              | .panic => .panic
            | .err => .err
            | .panic => .panic
          | .err => .err
          | .panic => .panic
        | .err => .err
        | .panic => .panic
end

/-- fuel that always suffices for the burn family: every call that spends fuel has consumed a
byte or descends one of at most `MAX_BURN_DEPTH` levels -/
def burnFuel (inp : Bytes) : Nat := 2 * inp.length + MAX_BURN_DEPTH + 4

/-- `burn_key_and_value(input, inposp, depth)` -/
def burnKeyValue (inp : Bytes) (depth : Nat) : Outcome Bytes :=
  match verifyChar 34 inp with
  | .ok r =>
    match burnString r with
    | .ok r' =>
      match eatColon r' with
      | .ok r'' => burnValue (burnFuel r'') r'' depth
      | .err => .err
      | .panic => .panic
    | .err => .err
    | .panic => .panic
  | .err => .err
  | .panic => .panic

/-- the string loop of `read_tag`: `(rest, strings)`; `outpos` = where the next length goes -/
def readTagStrs : Nat → Bytes → Nat → Nat → Outcome (Bytes × List Bytes)
  | 0, _, _, _ => .err
  | fuel + 1, inp, outpos, cap =>
    if outpos + 2 > cap then .err
    else match jsonUnescape inp (cap - (outpos + 2)) with
      | .ok (inlen, s) =>
        match eatWs (inp.drop (inlen + 1)) with
        | [] => .err
        | b :: rest =>
          if b = 44 then
            match verifyChar 34 (eatWs rest) with
            | .ok r =>
              match readTagStrs fuel r (outpos + 2 + s.length) cap with
              | .ok (r', ss) => .ok (r', s :: ss)
              | .err => .err
              | .panic => .panic
            | .err => .err
            | .panic => .panic
          else if b = 93 then .ok (rest, [s])
          else .err
      | .err => .err
      | .panic => .panic

/-- `read_tag`: from after the tag's `[` (blanks eaten) to after its `]` -/
def readTag (inp : Bytes) (outpos cap : Nat) : Outcome (Bytes × List Bytes) :=
  match inp with
  | [] => .err
  | b :: rest =>
    if b = 93 then (if cap < outpos + 2 then .err else .ok (rest, []))
    else match verifyChar 34 (b :: rest) with
      | .ok r => readTagStrs (r.length + 1) r (outpos + 2) cap
      | .err => .err
      | .panic => .panic

/-- the tag loop of `read_tags_array`: `(rest, offsets written, tags)` -/
def readTagsLoop : Nat → Bytes → Nat → Nat → Nat → Nat → Outcome (Bytes × List Nat × TagsRec)
  | 0, _, _, _, _, _ => .err
  | fuel + 1, inp, tagNum, numTags, outpos, cap =>
    if outpos > 65535 then .err
    else match readTag inp outpos cap with
      | .ok (r, t) =>
        let outpos' := outpos + tagSize t
        match eatWs r with
        | [] => .err
        | b :: rest =>
          if b = 93 then
            if tagNum ≠ numTags - 1 then .err else .ok (rest, [outpos], [t])
          else if b = 44 then
            match verifyChar 91 (eatWs rest) with
            | .ok r' =>
              if tagNum + 1 ≥ numTags then .err
              else match readTagsLoop fuel (eatWs r') (tagNum + 1) numTags outpos' cap with
                | .ok (r'', offs, ts) => .ok (r'', outpos :: offs, t :: ts)
                | .err => .err
                | .panic => .panic
            | .err => .err
            | .panic => .panic
          else .err
      | .err => .err
      | .panic => .panic

def encOffList : List Nat → Bytes
  | [] => []
  | o :: os => le16 o ++ encOffList os

/-- `read_tags_array(input, inposp, output)`: `(rest, the tag-section bytes written at the start of
`output`)`; `cap = output.len()` -/
def readTagsArray (inp : Bytes) (cap : Nat) : Outcome (Bytes × Bytes) :=
  match verifyChar 91 inp with
  | .ok r0 =>
    let r := eatWs r0
    if cap < 4 then .err
    else match countTags r with
      | .ok numTags =>
        if numTags > 65535 then .err
        else if numTags = 0 then
          match burnArray (burnFuel r) r 0 with
          | .ok r' => .ok (r', le16 4 ++ le16 0)
          | .err => .err
          | .panic => .panic
        else match verifyChar 91 r with
          | .ok r1 =>
            let outpos := 4 + numTags * 2
            if cap < outpos then .err
            else match readTagsLoop (r1.length + 1) (eatWs r1) 0 numTags outpos cap with
              | .ok (r', offs, ts) =>
                let total := outpos + tagsBodySize ts
                if total > 65535 then .err
                else .ok (r', le16 total ++ le16 numTags ++ encOffList offs ++ encTagsBody ts)
              | .err => .err
              | .panic => .panic
          | .err => .err
          | .panic => .panic
      | .err => .err
      | .panic => .panic
  | .err => .err
  | .panic => .panic

/-- `Tags::from_json(json, output)`: `(consumed, section length, whole buffer)` -/
def tagsFromJson (inp buf : Bytes) : Outcome (Nat × Nat × Bytes) :=
  match readTagsArray inp buf.length with
  | .ok (r, tb) => .ok (inp.length - r.length, tb.length, tb ++ buf.drop tb.length)
  | .err => .err
  | .panic => .panic

/-- `read_content(input, inposp, output, after_tags)`: `(rest, content)`; `cap` = whole output -/
def readContent (inp : Bytes) (cap afterTags : Nat) : Outcome (Bytes × Bytes) :=
  match verifyChar 34 inp with
  | .ok r =>
    if afterTags + 4 > cap then .err
    else match jsonUnescape r (cap - (afterTags + 4)) with
      | .ok (inlen, c) =>
        if afterTags + 4 + c.length > U32MAX then .err
        else .ok (r.drop (inlen + 1), c)
      | .err => .err
      | .panic => .panic
  | .err => .err
  | .panic => .panic

end Pocket
