import Pocket.Model.Basic
/- Reading hex text: `HEX_INVERSE` and the `read_hex!` macro (macros.rs), shared by the event and filter parsers, the address
parser of the store and the HyperLogLog import. -/
namespace Pocket

def hexInv (c : Nat) : Option Nat :=
  if 48 ≤ c ∧ c ≤ 57 then some (c - 48)
  else if 65 ≤ c ∧ c ≤ 70 then some (c - 55)
  else if 97 ≤ c ∧ c ≤ 102 then some (c - 87)
  else none

/-- the loop of `read_hex!`: pairs of hex characters to bytes -/
def unhexPairs : Bytes → Outcome Bytes
  | [] => .ok []
  | [_] => .err
  | h :: l :: rest =>
    match hexInv h, hexInv l with
    | some hv, some lv =>
      match unhexPairs rest with
      | .ok r => .ok ((hv * 16 + lv) :: r)
      | .err => .err
      | .panic => .panic
    | _, _ => .err

/-- `read_hex!(input, output, n)`: exactly `2n` hex characters -/
def readHex (n : Nat) (inp : Bytes) : Outcome Bytes :=
  if inp.length ≠ 2 * n then .err else unhexPairs inp

end Pocket
