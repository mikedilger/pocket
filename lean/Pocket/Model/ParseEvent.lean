import Pocket.Model.JsonParse
/- `parse_json_event` (event.rs) -/
namespace Pocket

/-- what has been read so far (`complete` flag word, `tags_size`, `content_input_start`) -/
structure EvSt where
  id : Option Bytes := none
  pk : Option Bytes := none
  sig : Option Bytes := none
  kind : Option Nat := none
  t : Option Nat := none
  tags : Option Bytes := none
  content : Option Bytes := none
  contentStart : Option Bytes := none
deriving Repr, DecidableEq

def startsWith (p l : Bytes) : Bool := l.take p.length == p

def kId : Bytes := [105, 100, 34]
def kSig : Bytes := [115, 105, 103, 34]
def kKind : Bytes := [107, 105, 110, 100, 34]
def kTags : Bytes := [116, 97, 103, 115, 34]
def kPubkey : Bytes := [112, 117, 98, 107, 101, 121, 34]
def kContent : Bytes := [99, 111, 110, 116, 101, 110, 116, 34]
def kCreatedAt : Bytes := [99, 114, 101, 97, 116, 101, 100, 95, 97, 116, 34]

/-- one member of the event object; `q` starts at the key's opening quote, `cap = output.len()` -/
def evMember (st : EvSt) (q : Bytes) (cap : Nat) : Outcome (EvSt × Bytes) :=
  match verifyChar 34 q with
  | .err => .err
  | .panic => .panic
  | .ok field =>
    if startsWith kId field then
      if st.id.isSome then .err
      else match eatColon (field.drop 3) with
        | .ok r => match readHexField 32 r with
          | .ok (v, r') => .ok ({ st with id := some v }, r')
          | .err => .err
          | .panic => .panic
        | .err => .err
        | .panic => .panic
    else if startsWith kSig field then
      if st.sig.isSome then .err
      else match eatColon (field.drop 4) with
        | .ok r => match readHexField 64 r with
          | .ok (v, r') => .ok ({ st with sig := some v }, r')
          | .err => .err
          | .panic => .panic
        | .err => .err
        | .panic => .panic
    else if startsWith kKind field then
      if st.kind.isSome then .err
      else match eatColon (field.drop 5) with
        | .ok r => match readKind r with
          | .ok (v, r') => .ok ({ st with kind := some v }, r')
          | .err => .err
          | .panic => .panic
        | .err => .err
        | .panic => .panic
    else if startsWith kTags field then
      if st.tags.isSome then .err
      else match eatColon (field.drop 5) with
        | .ok r => match readTagsArray r (cap - 144) with
          | .ok (r', tb) =>
            match st.contentStart with
            | some cs =>
              -- content came first: read it now that the tags are in place
              match readContent cs cap (144 + tb.length) with
              | .ok (_, c) => .ok ({ st with tags := some tb, content := some c }, r')
              | .err => .err
              | .panic => .panic
            | none => .ok ({ st with tags := some tb }, r')
          | .err => .err
          | .panic => .panic
        | .err => .err
        | .panic => .panic
    else if startsWith kPubkey field then
      if st.pk.isSome then .err
      else match eatColon (field.drop 7) with
        | .ok r => match readHexField 32 r with
          | .ok (v, r') => .ok ({ st with pk := some v }, r')
          | .err => .err
          | .panic => .panic
        | .err => .err
        | .panic => .panic
    else if startsWith kContent field then
      if st.content.isSome then .err
      else match eatColon (field.drop 8) with
        | .ok r =>
          match st.tags with
          | none =>
            -- tags not seen yet: remember where the content starts, skip it
            match verifyChar 34 r with
            | .ok r1 => match burnString r1 with
              | .ok r' => .ok ({ st with contentStart := some r }, r')
              | .err => .err
              | .panic => .panic
            | .err => .err
            | .panic => .panic
          | some tb =>
            match readContent r cap (144 + tb.length) with
            | .ok (r', c) => .ok ({ st with content := some c }, r')
            | .err => .err
            | .panic => .panic
        | .err => .err
        | .panic => .panic
    else if startsWith kCreatedAt field then
      if st.t.isSome then .err
      else match eatColon (field.drop 11) with
        | .ok r => match readU64 r with
          | .ok (v, r') => .ok ({ st with t := some v }, r')
          | .err => .err
          | .panic => .panic
        | .err => .err
        | .panic => .panic
    else
      -- unknown member: skipped from its opening quote
      match burnKeyValue q 0 with
      | .ok r' => .ok (st, r')
      | .err => .err
      | .panic => .panic

/-- the member loop -/
def evLoop : Nat → EvSt → Bytes → Nat → Outcome (EvSt × Bytes)
  | 0, _, _, _ => .err
  | fuel + 1, st, inp, cap =>
    match evMember st (eatWs inp) cap with
    | .ok (st', r) =>
      match nextObjectField r with
      | .ok (true, r') => .ok (st', r')
      | .ok (false, r') => evLoop fuel st' r' cap
      | .err => .err
      | .panic => .panic
    | .err => .err
    | .panic => .panic

-- 204 and 152 are the source's own constants ("Minimum-sized JSON event is 204 characters long", "152 is the minimum binary event").
-- In the member loop `st.tags = none` stands for the source's `tags_size == 0` and `st.contentStart = some _` for
-- `content_input_start != 0`: a written tags section has at least 4 bytes and a content never starts at input position 0.
/-- `Event::from_json(json, output_buffer)`: `(consumed, event length, whole buffer afterwards)` -/
def parseEvent (inp buf : Bytes) : Outcome (Nat × Nat × Bytes) :=
  if inp.length < 204 then .err
  else if buf.length < 152 then .err
  else match verifyChar 123 (eatWs inp) with
    | .ok r =>
      match evLoop (r.length + 1) {} r buf.length with
      | .ok (st, rest) =>
        match st.id, st.pk, st.sig, st.kind, st.t, st.tags, st.content with
        | some id, some pk, some sig, some kind, some t, some tb, some c =>
          let bytes := encodeEventWith id pk sig kind t tb c
          .ok (inp.length - rest.length, bytes.length, bytes ++ buf.drop bytes.length)
        | _, _, _, _, _, _, _ => .err
      | .err => .err
      | .panic => .panic
    | .err => .err
    | .panic => .panic

end Pocket
