import Pocket.Lemmas.AddrRT
import Pocket.Lemmas.Burn
import Pocket.Lemmas.Canon
import Pocket.Lemmas.Digits
import Pocket.Lemmas.EventMap
import Pocket.Lemmas.EventOrder
import Pocket.Lemmas.EventUnknown
import Pocket.Lemmas.FilterCanon
import Pocket.Lemmas.FilterOrder
import Pocket.Lemmas.FilterPerm
import Pocket.Lemmas.FilterPieces
import Pocket.Lemmas.Find
import Pocket.Lemmas.FindNewest
import Pocket.Lemmas.FromSourceConsts
import Pocket.Lemmas.FromSourceEventMap
import Pocket.Lemmas.FromSourceHex
import Pocket.Lemmas.FromSourceKeys
import Pocket.Lemmas.FromSourceKind
import Pocket.Lemmas.FromSourceLayout
import Pocket.Lemmas.FromSourcePreds
import Pocket.Lemmas.Hex
import Pocket.Lemmas.JsonText
import Pocket.Lemmas.Keys
import Pocket.Lemmas.KeysTag
import Pocket.Lemmas.Layout
import Pocket.Lemmas.ListAux
import Pocket.Lemmas.Match
import Pocket.Lemmas.Outcome
import Pocket.Lemmas.ParseFilterWF
import Pocket.Lemmas.ParseWF
import Pocket.Lemmas.Refine
import Pocket.Lemmas.RefineRun
import Pocket.Lemmas.RoundTrip
import Pocket.Lemmas.Scan
import Pocket.Lemmas.Spelling
import Pocket.Lemmas.StoreAddr
import Pocket.Lemmas.StoreCover
import Pocket.Lemmas.StoreDel
import Pocket.Lemmas.StoreInv
import Pocket.Lemmas.StoreRead
import Pocket.Lemmas.StoreStep
import Pocket.Lemmas.Total
import Pocket.Lemmas.Vanish
import Pocket.Lemmas.Ws
import Pocket.Model.Basic
import Pocket.Model.Conc
import Pocket.Model.Crash
import Pocket.Model.Escape
import Pocket.Model.Event
import Pocket.Model.EventMap
import Pocket.Model.Filter
import Pocket.Model.Hex
import Pocket.Model.Hll
import Pocket.Model.HllFloat
import Pocket.Model.JsonParse
import Pocket.Model.Keys
import Pocket.Model.Kind
import Pocket.Model.ParseEvent
import Pocket.Model.ParseFilter
import Pocket.Model.Refs
import Pocket.Model.Store
import Pocket.Model.Tags
import Pocket.Model.Utf8
import Pocket.Model.Verify
import Pocket.Spec.AbsOp
import Pocket.Spec.AbsStore
import Pocket.Spec.EventText
import Pocket.Spec.FilterText
import Pocket.Spec.IndexKeys
import Pocket.Spec.JsonText
import Pocket.Spec.Match
import Pocket.Spec.Sized
import Pocket.Spec.SrcLayout
import Pocket.Spec.StoreInv
import Pocket.Src.Consts
import Pocket.Src.EventStore
import Pocket.Src.Hex
import Pocket.Src.Keys
import Pocket.Src.Kind
import Pocket.Src.Layout
import Pocket.Src.Preds
import Pocket.Thm.C01
import Pocket.Thm.C02
import Pocket.Thm.C03
import Pocket.Thm.C04
import Pocket.Thm.C05
import Pocket.Thm.C06
import Pocket.Thm.C07
import Pocket.Thm.C08
import Pocket.Thm.C09
import Pocket.Thm.C10
import Pocket.Thm.C11
import Pocket.Thm.C12
import Pocket.Thm.C13
import Pocket.Thm.C14
import Pocket.Thm.C15
import Pocket.Thm.C16
import Pocket.Thm.C17
import Pocket.Thm.C18
import Pocket.Thm.C19
/- Every module, so that `lake build` checks all of it, except `Spec/Sketch`, `Lemmas/Hll` and `Thm/C20` (the root `PocketC20`):
`Spec/Sketch` declares a second `Pocket.step`, one HyperLogLog insertion, and cannot be loaded together with the store model's. -/
