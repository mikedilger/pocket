import Pocket.Model.ParseFilter
import Pocket.Model.HllFloat
import Pocket.Model.Kind
import Pocket.Model.Store
import Pocket.Model.Keys
import Pocket.Model.EventMap
import Pocket.Model.Verify
import Pocket.Spec.AbsStore
/-
pocket-model: answers the line protocol of DESIGN.md Appendix B from the Lean model.
The definitions executed here are the ones the theorems in Pocket/Thm are about.
-/
open Pocket

def hexNib (n : Nat) : Char := Char.ofNat (if n < 10 then 48 + n else 87 + n)

def toHex (b : Bytes) : String :=
  if b.isEmpty then "-" else
  String.ofList (b.foldr (fun x acc => hexNib (x / 16 % 16) :: hexNib (x % 16) :: acc) [])

def nibVal (c : Char) : Option Nat :=
  let n := c.toNat
  if 48 ≤ n ∧ n ≤ 57 then some (n - 48)
  else if 97 ≤ n ∧ n ≤ 102 then some (n - 87)
  else if 65 ≤ n ∧ n ≤ 70 then some (n - 55)
  else none

def unhexChars : List Char → Option Bytes
  | [] => some []
  | [_] => none
  | h :: l :: rest =>
    match nibVal h, nibVal l, unhexChars rest with
    | some a, some b, some r => some ((a * 16 + b) :: r)
    | _, _, _ => none

def unhex (s : String) : Option Bytes :=
  if s == "-" then some [] else unhexChars s.toList

def strToBytes (s : String) : Bytes := s.toUTF8.toList.map (·.toNat)
def bytesToStr (b : Bytes) : String := String.ofList (b.map Char.ofNat)

def parseTagsTok (tok : String) : Option TagsRec :=
  if tok == "_" then some [] else
  (tok.splitOn ";").mapM fun t =>
    if t == "." then some [] else (t.splitOn ",").mapM unhex

def tagsTok (ts : TagsRec) : String :=
  if ts.isEmpty then "_" else
  ";".intercalate (ts.map fun t =>
    if t.isEmpty then "." else ",".intercalate (t.map toHex))

def list32Tok (tok : String) : Option (List Bytes) :=
  if tok == "_" then some [] else (tok.splitOn ",").mapM unhex

def listNatTok (tok : String) : Option (List Nat) :=
  if tok == "_" then some [] else (tok.splitOn ",").mapM String.toNat?

def joinOr (l : List String) : String := if l.isEmpty then "_" else ",".intercalate l

def optNat (tok : String) (dflt : Nat) : Option Nat :=
  if tok == "-" then some dflt else tok.toNat?

def buildEvent (a : List String) : Option EventRec :=
  match a with
  | id :: pk :: kind :: t :: tags :: content :: rest => do
    let sig ← match rest with
      | s :: _ => unhex s
      | [] => some (List.replicate 64 0)
    some ⟨← unhex id, ← unhex pk, sig, ← kind.toNat?, ← t.toNat?, ← parseTagsTok tags, ← unhex content⟩
  | _ => none

def buildFilter (a : List String) : Option FilterRec :=
  match a with
  | ids :: authors :: kinds :: tags :: since :: «until» :: limit :: _ => do
    some ⟨← list32Tok ids, ← list32Tok authors, ← listNatTok kinds, ← parseTagsTok tags,
          ← optNat since 0, ← optNat «until» U64MAX, (← optNat limit U32MAX) % 4294967296⟩
  | _ => none

def fnvStep (h : UInt64) (b : Nat) : UInt64 := (h ^^^ b.toUInt64) * 0x100000001b3
def fnvBytes (h : UInt64) (b : Bytes) : UInt64 := b.foldl fnvStep h

def rawUtf8 (c : Nat) : Bytes :=
  if c < 128 then [c]
  else if c < 2048 then [192 + c / 64, 128 + c % 64]
  else if c < 65536 then [224 + c / 4096, 128 + c / 64 % 64, 128 + c % 64]
  else [240 + c / 262144 % 8, 128 + c / 4096 % 64, 128 + c / 64 % 64, 128 + c % 64]

def fmtOutcome {α : Type} (o : Outcome α) (f : α → String) : String :=
  match o with
  | .ok a => f a
  | .err => "err"
  | .panic => "panic model"

def eventAccessors (b : Bytes) : String :=
  match eventDecode b with
  | .ok e =>
    let json := match eventJson e with
      | .ok j => toHex j
      | .err => "jsonerr"
      | .panic => "panic"
    s!"ok {toHex e.id} {toHex e.pubkey} {toHex e.sig} {e.kind} {e.createdAt} {tagsTok e.tags} {toHex e.content} {json} gs=1"
  | .err => "tagserr"
  | .panic => "panic model"

def filterAccessors (b : Bytes) : String :=
  match filterDecode b with
  | .ok f =>
    let json := match filterJson f with
      | .ok j => toHex j
      | .err => "jsonerr"
      | .panic => "panic"
    s!"ok {joinOr (f.ids.map toHex)} {joinOr (f.authors.map toHex)} {joinOr (f.kinds.map toString)} {tagsTok f.tags} {f.since} {f.until} {f.limit} {json} n={f.ids.length},{f.authors.length},{f.kinds.length} hll={match hllOffset f with | some v => toString v | none => "none"}"
  | .err => "tagserr"
  | .panic => "panic model"

def cptDigest (lo hi : Nat) : UInt64 := Id.run do
  let mut h : UInt64 := 0xcbf29ce484222325
  for c in [lo:hi] do
    let bytes := rawUtf8 c
    match jsonEscape bytes with
    | .ok o => h := fnvBytes (fnvStep h 1) o
    | _ => h := fnvStep h 0
    match jsonUnescape (bytes ++ [34]) 16 with
    | .ok (i, o) => h := fnvBytes (fnvBytes h [1, i % 256, o.length % 256]) o
    | _ => h := fnvStep h 0
    if c < 65536 then
      let esc : Bytes := [92, 117, hexDigitLower (c / 4096 % 16), hexDigitLower (c / 256 % 16),
        hexDigitLower (c / 16 % 16), hexDigitLower (c % 16), 34]
      match jsonUnescape esc 16 with
      | .ok (i, o) => h := fnvBytes (fnvBytes h [1, i % 256, o.length % 256]) o
      | _ => h := fnvStep h 0
  return h

def kndDigest (lo hi : Nat) : UInt64 := Id.run do
  let mut h : UInt64 := 0xcbf29ce484222325
  for k in [lo:hi] do
    let k := k % 65536
    let b := (if isReplaceable k then 1 else 0) + (if isEphemeral k then 2 else 0) +
      (if isParamReplaceable k then 4 else 0)
    h := fnvStep h b
  return h

/-- the chunk the debug worker grows the event map by -/
def DEBUG_CHUNK : Nat := 2048

def handleTypes (cmd : String) (a : List String) : Option String :=
  match cmd, a with
  | "PING", _ => some "pong"
  | "EVJ", [j, len, seed] => do
    let inp ← unhex j
    let buf := dirtyBuf (← len.toNat?) (← seed.toNat?).toUInt64
    some (fmtOutcome (parseEvent inp buf) fun (c, l, b) => s!"ok {c} {l} {toHex b}")
  | "EMX", [fl, mk, size] => do
    -- the durable (file length, end marker) pairs a kill inside store_event can leave, each as the next open sees it
    let fl ← fl.toNat?
    let mk ← mk.toNat?
    let size ← size.toNat?
    match emOpen DEBUG_CHUNK fl mk with
    | .ok m =>
      let sts := (emStoreStates DEBUG_CHUNK m size).map fun (f, k) =>
        match emOpen DEBUG_CHUNK f k with
        | .ok m' => s!"{m'.fileLen}:{m'.marker}"
        | _ => "err"
      some ("ok " ++ joinOr sts)
    | _ => some "err"
  | "DLN", [b, total] => do
    let b ← unhex b
    let n ← total.toNat?
    if n < b.length then some "bad-request" else
    match eventDelineateLen b n with
    | .ok len => some s!"ok {len}"
    | .err => some "err"
    | .panic => some "panic model"
  | "EVA", [b] => do
    let b ← unhex b
    match eventDelineate b with
    | .ok e => some (eventAccessors e)
    | .err => some "delineate-err"
    | .panic => some "panic model"
  | "EVP", [id, pk, kind, t, tags, content, sig, len, seed] => do
    let e ← buildEvent [id, pk, kind, t, tags, content, sig]
    let buf := dirtyBuf (← len.toNat?) (← seed.toNat?).toUInt64
    if tagsSize e.tags > 65535 then some "tags-err" else
    let owned := (eventFromRec e (List.replicate (eventSize (tagsSize e.tags) e.content.length) 0)).isOk
    match eventFromRec e buf with
    | .ok b =>
      let l := eventSize (tagsSize e.tags) e.content.length
      some s!"ok {l} {toHex b} owned={if owned then 1 else 2}"
    | .err => some s!"err owned={if owned then 1 else 0}"
    | .panic => some "panic model"
  | "TGJ", [j, len, seed] => do
    let inp ← unhex j
    let buf := dirtyBuf (← len.toNat?) (← seed.toNat?).toUInt64
    some (fmtOutcome (tagsFromJson inp buf) fun (c, l, b) => s!"ok {c} {l} {toHex b}")
  | "TGP", [tags, len, seed] => do
    let ts ← parseTagsTok tags
    let buf := dirtyBuf (← len.toNat?) (← seed.toNat?).toUInt64
    let owned := (tagsFromParts ts (List.replicate (tagsSize ts) 0)).isOk
    match tagsFromParts ts buf with
    | .ok b => some s!"ok {tagsSize ts} {toHex b} owned={if owned then 1 else 2}"
    | .err => some s!"err owned={if owned then 1 else 0}"
    | .panic => some "panic model"
  | "TGA", [b] => do
    let b ← unhex b
    match tagsDelineate b with
    | .ok tb =>
      match tagsCount tb, tagsDecode tb with
      | .ok c, .ok ts =>
        match tagsJson ts with
        | .ok j => some s!"ok {c} {tagsTok ts} {toHex j}"
        | _ => some "panic model"
      | _, _ => some "panic model"
    | .err => some "delineate-err"
    | .panic => some "panic model"
  | "FLJ", [j, len, seed] => do
    let inp ← unhex j
    let buf := dirtyBuf (← len.toNat?) (← seed.toNat?).toUInt64
    some (fmtOutcome (parseFilter inp buf) fun (c, l, b) => s!"ok {c} {l} {toHex b} l={l}")
  | "FLP", [ids, authors, kinds, tags, since, «until», limit, len, seed] => do
    let f ← buildFilter [ids, authors, kinds, tags, since, «until», limit]
    let buf := dirtyBuf (← len.toNat?) (← seed.toNat?).toUInt64
    if tagsSize f.tags > 65535 then some "tags-err" else
    let n := filterSize f.ids.length f.authors.length f.kinds.length (tagsSize f.tags)
    let owned := (filterFromRec f (List.replicate n 0)).isOk
    match filterFromRec f buf with
    | .ok b => some s!"ok {n} {toHex b} owned={if owned then 1 else 2}"
    | .err => some s!"err owned={if owned then 1 else 0}"
    | .panic => some "panic model"
  | "FLA", [b] => do
    let b ← unhex b
    match filterDelineate b with
    | .ok f => some (filterAccessors f)
    | .err => some "delineate-err"
    | .panic => some "panic model"
  | "MAT", [fb, eb] => do
    let fb ← unhex fb
    let eb ← unhex eb
    match filterDelineate fb, eventDelineate eb with
    | .ok f, .ok e => some (fmtOutcome (eventMatchesB f e) fun b => s!"ok {if b then 1 else 0}")
    | _, _ => some "bad-request del"
  | "MTP", a => do
    let f ← buildFilter (a.take 7)
    let e ← buildEvent (a.drop 7)
    some s!"ok {if eventMatches f e then 1 else 0}"
  | "UNE", [inp, len, seed] => do
    let inp ← unhex inp
    let n ← len.toNat?
    let buf := dirtyBuf n (← seed.toNat?).toUInt64
    some (fmtOutcome (jsonUnescape inp n) fun (i, o) => s!"ok {i} {o.length} {toHex (o ++ buf.drop o.length)}")
  | "ESC", [inp] => do
    let inp ← unhex inp
    some (fmtOutcome (jsonEscape inp) fun o => s!"ok {toHex o}")
  | "HEX", [kind, inp] => do
    let inp ← unhex inp
    match kind with
    | "id" | "pk" => some (fmtOutcome (readHex 32 inp) fun v => s!"ok {toHex v} {bytesToStr (hexOf v)}")
    | "sig" => some (fmtOutcome (readHex 64 inp) fun v => s!"ok {toHex v} {bytesToStr (hexOf v)}")
    | "hll" =>
      -- the worker takes a &str: invalid UTF-8 never reaches the parser
      some (fmtOutcome (hllFromHex inp) fun r => s!"ok {bytesToStr (hllToHex r)} {hllEstimate r}")
    | _ => none
  | "ADR", [a] => do
    match parseAddr (← unhex a) with
    | some (k, au, d) => some s!"ok {k} {toHex au} {toHex d}"
    | none => some "err"
  | "KND", [lo, hi] => do some (toString (kndDigest (← lo.toNat?) (← hi.toNat?)))
  | "CPT", [lo, hi] => do some (toString (cptDigest (← lo.toNat?) (← hi.toNat?)))
  | "CAN", a => do
    let e ← buildEvent a
    some (fmtOutcome (canon e) fun c => s!"ok {toHex c}")
  | "HLA", [st, el, off] => do
    let r ← match hllFromHex (strToBytes st) with | .ok r => some r | _ => none
    let el ← unhex el
    some (fmtOutcome (hllAdd r el (← off.toNat?)) fun r => s!"ok {bytesToStr (hllToHex r)}")
  | "HLM", [s1, s2] => do
    let r1 ← match hllFromHex (strToBytes s1) with | .ok r => some r | _ => none
    let r2 ← match hllFromHex (strToBytes s2) with | .ok r => some r | _ => none
    some s!"ok {bytesToStr (hllToHex (hllMerge r1 r2))}"
  | "HLE", [st] => do
    let r ← match hllFromHex (strToBytes st) with | .ok r => some r | _ => none
    some s!"ok {hllEstimate r}"
  | _, _ => none

def screenOf (mode : String) : EventRec → Screen := fun e =>
  match mode with
  | "p" => match e.id.getLastD 0 % 3 with
    | 0 => .match
    | 1 => .mismatch
    | _ => .redacted
  | "x" => .mismatch
  | "r" => .redacted
  | _ => .match

def insertRow (rows : List (Bytes × Bytes)) (k v : Bytes) : List (Bytes × Bytes) :=
  match rows with
  | [] => [(k, v)]
  | (k', v') :: rest =>
    if k' == k then (k, v) :: rest
    else if bytesLt k k' then (k, v) :: (k', v') :: rest
    else (k', v') :: insertRow rest k v

def handleStore (s : Store) (cmd : String) (a : List String) : Option (Store × String) :=
  match cmd, a with
  | "NEW", _ :: rest =>
    let tables := match rest with
      | t :: _ => if t == "-" then [] else t.splitOn ","
      | [] => []
    some ({ db := { extra := tables.map fun t => (t, []) } }, "ok debug=1 end=8")
  | "PRE", _ => some ({}, "ok")
  | "OPN", _ => some (s, "ok")
  | "CLS", _ => some (s, "ok")
  | "RMD", _ => some ({}, "ok")
  | "RBD", _ => some (rebuild s, "ok bak=11")
  | "STO", a => do
    let e ← buildEvent a
    if tagsSize e.tags > 65535 then none else
    let (r, s') := storeEvent s e
    let txt := match r with
      | .ok off => s!"ok {off}"
      | .duplicate => "dup"
      | .deleted => "deleted"
      | .replaced => "replaced"
      | .invalidDelete => "invalid"
      | .other => "err"
    some (s', txt)
  | "REM", [id] => do some (removeEvent s (← unhex id), "ok")
  | "VAN", [pk] => do some (vanish s (← unhex pk), "ok")
  | "FND", a => do
    let f ← buildFilter (a.take 7)
    match a.drop 7 with
    | allow :: lim :: secs :: scr :: rest =>
      let now := match rest with
        | n :: _ => (n.drop 4).toString.toNat?.getD 0
        | [] => 0
      match findEvents s.db.live f (allow == "1") (← lim.toNat?) (← secs.toNat?) now (screenOf scr) with
      | .ok evs red => some (s, s!"ok {joinOr (evs.map fun x => toHex x.e.id)} r={if red then 1 else 0}")
      | .scraper => some (s, "scraper")
    | _ => none
  | "GID", [id] => do
    match getById s (← unhex id) with
    | some e => some (s, s!"some {toHex (encodeEvent e)}")
    | none => some (s, "none")
  | "HAS", [id] => do some (s, if (findById s.db.live (← unhex id)).isSome then "1" else "0")
  | "DEL", [id] => do some (s, if s.db.delIds.contains (← unhex id) then "1" else "0")
  | "OFF", [off] => do
    let off ← off.toNat?
    if off ≥ s.end then some (s, "err") else
    match getByOffset s off with
    | some e => some (s, s!"some {toHex (encodeEvent e)}")
    | none => some (s, "unknown")
  | "NAD", [kind, pk, d] => do
    match delAddrGet s.db.delAddrs (← kind.toNat?, ← unhex pk, ← unhex d) with
    | some t => some (s, s!"some {t}")
    | none => some (s, "none")
  | "FRP", [pk, kind] => do
    match findReplaceable s.db.live (← unhex pk) (← kind.toNat?) with
    | .ok (some x) => some (s, s!"some {toHex x.e.id}")
    | .ok none => some (s, "none")
    | _ => some (s, "wrongkind")
  | "FPR", [kind, pk, d] => do
    match findParam s.db.live (← kind.toNat?) (← unhex pk) (← unhex d) with
    | .ok (some x) => some (s, s!"some {toHex x.e.id}")
    | .ok none => some (s, "none")
    | _ => some (s, "wrongkind")
  | "STA", _ =>
    let n := s.db.live.length
    let tg := tagEntryCount s.db.live
    let custom := joinOr (s.db.extra.map fun (nm, rows) => s!"{nm}:{rows.length}")
    some (s, s!"end={s.end} general={9 + s.db.extra.length} i={n} ci={n} tc={tg} ac={n} akc={n} atc={tg} ktc={tg} del={s.db.delIds.length} naddr={s.db.delAddrs.length} custom={custom}")
  | "KYS", _ =>
    let parts := ["ci", "tc", "ac", "akc", "atc", "ktc"].flatMap fun t => (tableKeys s.db.live t).map fun k => s!"{t}:{toHex k}"
    some (s, "ok " ++ joinOr parts)
  | "XPT", [name, k, v] => do
    let k ← unhex k
    let v ← unhex v
    if s.db.extra.any (·.1 == name) then
      if k.isEmpty || k.length > 511 then some (s, "err") else
      some ({ s with db := { s.db with extra := s.db.extra.map fun (nm, rows) =>
        if nm == name then (nm, insertRow rows k v) else (nm, rows) } }, "ok")
    else some (s, "notable")
  | "XDL", [name, k] => do
    let k ← unhex k
    if s.db.extra.any (·.1 == name) then
      some ({ s with db := { s.db with extra := s.db.extra.map fun (nm, rows) =>
        if nm == name then (nm, rows.filter (·.1 != k)) else (nm, rows) } }, "ok")
    else some (s, "notable")
  | "XDP", [name] =>
    match s.db.extra.find? (·.1 == name) with
    | some (_, rows) => some (s, s!"rows {joinOr (rows.map fun (k, v) => s!"{toHex k}={toHex v}")}")
    | none => some (s, "notable")
  | _, _ => none

def emFresh : EMap := match emOpen DEBUG_CHUNK 0 0 with
  | .ok m => m
  | _ => { fileLen := 0, marker := 0, memLen := 0, mapLen := 0 }

/-- follow the event-map file through a store request: an append happened iff the end moved -/
def emAfter (em : EMap) (cmd : String) (s s' : Store) : EMap :=
  match cmd with
  | "NEW" | "RMD" => emFresh
  | "OPN" | "CLS" => (match emOpen DEBUG_CHUNK em.fileLen em.marker with | .ok m => m | _ => em)
  | "RBD" =>
    -- a new file: the live events are appended again, in the order of the rebuilt log
    s'.log.foldl (fun m x => match emStore DEBUG_CHUNK m (eventLen x.e) with | .ok (_, m') => m' | _ => m) emFresh
  | "STO" =>
    if s'.end = s.end then em
    else match s'.log.getLast? with
      | some x => (match emStore DEBUG_CHUNK em (eventLen x.e) with | .ok (_, m') => m' | _ => em)
      | none => em
  | _ => em

/-- follow the ABSTRACT store (`Spec/AbsStore.lean`, the one the refinement theorems are about) through a request,
independently of the concrete model -/
def absAfter (ab : Abs) (cmd : String) (a : List String) : Abs :=
  match cmd, a with
  | "NEW", _ => {}
  | "PRE", _ => {}
  | "RMD", _ => {}
  | "RBD", _ => absRebuild ab
  | "STO", a =>
    (match buildEvent a with
     | some e => if tagsSize e.tags > 65535 then ab else (absStore ab e).2
     | none => ab)
  | "REM", [id] => (match unhex id with | some i => absRemove ab i | none => ab)
  | "VAN", [pk] => (match unhex pk with | some k => absVanish ab k | none => ab)
  | _, _ => ab

/-- `SPC`: the abstract state in one line (retrievable ids, id markers, address markers with times, end of the log), and
whether the concrete model's state still stands for it (`full_history_refines`: it does, for `u64` times and fewer than 2^32 − 1 operations) -/
def spcLine (ab : Abs) (s : Store) : String :=
  let live := joinOr (ab.live.map fun e => toHex e.id)
  let di := joinOr (ab.delIds.map toHex)
  let da := joinOr (ab.delAddrs.map fun ((k, au, d), t) => s!"{k}:{toHex au}:{toHex d}={t}")
  let ok := if Abs.of s == ab then "" else " MODEL-INCONSISTENT abstract state differs from Abs.of (concrete state)"
  s!"live={live} del={di} addr={da} end={ab.end}{ok}"

partial def loop (h : IO.FS.Stream) (out : IO.FS.Stream) (s : Store) (em : EMap) (ab : Abs) : IO Unit := do
  let line ← h.getLine
  if line.isEmpty then return ()
  let line := line.trimAscii.toString
  let mut s := s
  let mut em := em
  let mut ab := ab
  if line.isEmpty || line.startsWith "#" then
    out.putStrLn "#"
  else
    let toks := line.splitOn " "
    match toks with
    | cmd :: a =>
      if cmd == "MLN" then
        -- the file length, and a cross-check of the two models: the map's end marker is the store's end
        out.putStrLn (if em.marker = s.end then s!"{em.fileLen}" else s!"{em.fileLen} MODEL-INCONSISTENT marker={em.marker} end={s.end}")
      else if cmd == "SPC" then
        out.putStrLn (spcLine ab s)
      else
      match handleTypes cmd a with
      | some r => out.putStrLn r
      | none =>
        match handleStore s cmd a with
        | some (s', r) =>
          em := if cmd == "PRE" then
              -- a directory whose event.map already exists, zero-filled, `len` bytes long, and has never been opened
              { fileLen := (a.getD 1 "0").toNat?.getD 0, marker := 0, memLen := 0, mapLen := 0 }
            else emAfter em cmd s s'
          ab := absAfter ab cmd a
          s := s'
          out.putStrLn r
        | none => out.putStrLn "bad-request"
    | [] => out.putStrLn "bad-request"
  out.flush
  loop h out s em ab

def main : IO Unit := do
  loop (← IO.getStdin) (← IO.getStdout) {} emFresh {}
