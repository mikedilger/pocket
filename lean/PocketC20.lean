import Pocket.Thm.C20
/- The sketches (C20), apart from the root `Pocket`: see there. -/
